/-
C19 — both big-integer back ends (`srp-default-math` = num-bigint, `srp-fast-math` = rug/GMP) produce
identical results: every API-level function of the authentication model returns the same bytes, errors
and accept/reject decisions for the same inputs and the same random draws, and the two configurations
panic on exactly the same inputs (the texts of the panic messages differ, nothing else does).
No side conditions: even / tiny / zero announced moduli and zero exponents are included.
-/
import Batteries.Lean.Except  -- `DecidableEq (Except ε α)`, which core lacks; the last example decides with it
import WowSrp.Lemmas.LE
import WowSrp.Lemmas.PowMod
import WowSrp.Lemmas.Modulus
import WowSrp.Model.Srp
namespace WowSrp

/-- Two outcomes agree: both `ok` with the same value, or both panic (the panic *site* is a text of the
    library that panicked and is allowed to differ between the back ends). -/
def Out.sameOutcome {α : Type} : Out α → Out α → Prop
  | .ok a, .ok b => a = b
  | .panic _, .panic _ => True
  | _, _ => False

def LoginResult.sameOutcome : LoginResult → LoginResult → Prop
  | .panic _, .panic _ => True
  | a, b => a = b

theorem Out.sameOutcome_of_eq {α : Type} {x y : Out α} (h : x = y) : x.sameOutcome y := by
  subst h; cases x <;> simp [Out.sameOutcome]

theorem Out.sameOutcome_panic {α : Type} (s t : String) : (Out.panic s : Out α).sameOutcome (.panic t) :=
  trivial

theorem Out.sameOutcome_iff {α : Type} (x y : Out α) :
    x.sameOutcome y ↔ (∃ a, x = .ok a ∧ y = .ok a) ∨ (∃ s t, x = .panic s ∧ y = .panic t) := by
  cases x <;> cases y <;> simp [Out.sameOutcome, eq_comm]

theorem Out.sameOutcome_bind {α β : Type} {x y : Out α} {f g : α → Out β}
    (h : x.sameOutcome y) (hf : ∀ a, (f a).sameOutcome (g a)) : (x >>= f).sameOutcome (y >>= g) := by
  cases x <;> cases y <;> simp [Out.sameOutcome] at h ⊢
  · subst h; exact hf _

theorem LoginResult.sameOutcome_of_eq {x y : LoginResult} (h : x = y) : x.sameOutcome y := by
  subst h; cases x <;> simp [LoginResult.sameOutcome]

/-- **`modpow` agrees**: the two back ends return the same number whenever either returns one …
    NOTE: `Backend.modpow` is ONE definition for both back ends, so this theorem alone only says that
    the shared definition does not look at the back end except for the panic label. That each library
    really computes this shared definition is proved in `Props/C19Backends.lean`
    (`C19_num_modpow_faithful`, `C19_rug_modpow_faithful`,
    `C19_backends_agree_from_library_semantics`) from separate per-library definitions
    (`Model/BigIntLib.lean`: num-bigint's magnitude power with sign fix-up; rug's
    `secure_pow_mod` / `pow_mod` branch over GMP's Euclidean residue). -/
theorem C19_modpow_agree (base : Int) (e m r : Nat) :
    Backend.num.modpow base e m = .ok r ↔ Backend.rug.modpow base e m = .ok r := by
  unfold Backend.modpow
  split <;> simp

/-- … and they panic on exactly the same inputs: a zero modulus, nothing else (in particular not an
    even modulus and not a zero exponent — the `secure_pow_mod` preconditions of the pre-fix code) -/
theorem C19_modpow_panic_iff (be : Backend) (base : Int) (e m : Nat) :
    (∃ s, be.modpow base e m = .panic s) ↔ m = 0 :=
  Backend.modpow_panic_iff be base e m

theorem C19_modpow_sameOutcome (base : Int) (e m : Nat) :
    (Backend.num.modpow base e m).sameOutcome (Backend.rug.modpow base e m) := by
  unfold Backend.modpow
  split <;> simp [Out.sameOutcome]

/-- for a positive modulus the result does not depend on the back end at all -/
theorem Backend.modpow_indep (be : Backend) (base : Int) (e m : Nat) (hm : 0 < m) :
    be.modpow base e m = Backend.num.modpow base e m := by
  rw [Backend.modpow_ok be _ _ _ hm, Backend.modpow_ok .num _ _ _ hm]

/-- **byte output agrees after the fixed-size copy**: num-bigint writes zero as `[0]`, rug as `[]`;
    copied into a zeroed array of `w > 0` bytes (every use in the crate: `w = 32`) both give the same
    array, and both panic for the same (too large) numbers -/
theorem C19_bytes_agree (w n : Nat) (site : String) (hw : 0 < w) :
    padCopy w (Backend.num.toBytesLe n) site = padCopy w (Backend.rug.toBytesLe n) site := by
  rw [padCopy_toBytesLe_eq .num w n site hw, padCopy_toBytesLe_eq .rug w n site hw]

theorem C19_bytes_agree_32 (n : Nat) (site : String) :
    padCopy 32 (Backend.num.toBytesLe n) site = padCopy 32 (Backend.rug.toBytesLe n) site :=
  C19_bytes_agree 32 n site (by decide)

/-- the encodings themselves differ only for zero, and always denote the same number -/
theorem C19_toBytesLe_value (n : Nat) :
    ofLE (Backend.num.toBytesLe n) = ofLE (Backend.rug.toBytesLe n) := by
  rw [Backend.ofLE_toBytesLe, Backend.ofLE_toBytesLe]

theorem padCopy32_indep (be : Backend) (n : Nat) (site : String) :
    padCopy 32 (be.toBytesLe n) site = padCopy 32 (Backend.num.toBytesLe n) site := by
  rw [padCopy_toBytesLe_eq be 32 n site (by decide), padCopy_toBytesLe_eq .num 32 n site (by decide)]

theorem toPadded32_indep (be : Backend) (n : Nat) : toPadded32 be n = toPadded32 .num n :=
  padCopy32_indep be n _

/-! ### server side and built-in group: literally equal results (all moduli are `N > 0`) -/

theorem C19_agree_calculatePasswordVerifier (C : Crypto) (U P salt : Bytes) :
    calculatePasswordVerifier C .num U P salt = calculatePasswordVerifier C .rug U P salt := by
  simp only [calculatePasswordVerifier, Backend.modpow_indep .rug _ _ _ nBig_pos, toPadded32_indep .rug]

theorem C19_agree_tryFromBigint (b : Nat) :
    PublicKey.tryFromBigint .num b = PublicKey.tryFromBigint .rug b := by
  simp only [PublicKey.tryFromBigint, padCopy32_indep .rug]

theorem C19_agree_calculateServerPublicKey (v b : Bytes) :
    calculateServerPublicKey .num v b = calculateServerPublicKey .rug v b := by
  simp only [calculateServerPublicKey, Backend.modpow_indep .rug _ _ _ nBig_pos, C19_agree_tryFromBigint]

theorem C19_agree_calculateS (A v u b : Bytes) :
    calculateS .num A v u b = calculateS .rug A v u b := by
  simp only [calculateS, Backend.modpow_indep .rug _ _ _ nBig_pos, padCopy32_indep .rug]

theorem C19_agree_calculateSessionKey (C : Crypto) (A B v b : Bytes) :
    calculateSessionKey C .num A B v b = calculateSessionKey C .rug A B v b := by
  simp only [calculateSessionKey, C19_agree_calculateS]

/-- `SrpVerifier::from_username_and_password` (any salt draw) -/
theorem C19_agree_fromUsernameAndPassword (C : Crypto) (u p : NStr) (salt : Bytes) :
    SrpVerifier.fromUsernameAndPassword C .num u p salt = SrpVerifier.fromUsernameAndPassword C .rug u p salt := by
  simp only [SrpVerifier.fromUsernameAndPassword, C19_agree_calculatePasswordVerifier]

theorem C19_agree_withSpecificPrivateKey (s : SrpVerifier) (b : Bytes) :
    s.withSpecificPrivateKey .num b = s.withSpecificPrivateKey .rug b := by
  simp only [SrpVerifier.withSpecificPrivateKey, C19_agree_calculateServerPublicKey]

/-- `SrpVerifier::into_proof` (any private-key draw, the all-zero draw included): same proof object,
    same documented panic -/
theorem C19_agree_intoProof (s : SrpVerifier) (b : Bytes) :
    s.intoProof .num b = s.intoProof .rug b := by
  simp only [SrpVerifier.intoProof, C19_agree_withSpecificPrivateKey]

/-- `SrpProof::into_server`: same session key, same accept/reject decision, same M2, same error -/
theorem C19_agree_intoServer (C : Crypto) (p : SrpProof) (A M1 challenge : Bytes) :
    p.intoServer C .num A M1 challenge = p.intoServer C .rug A M1 challenge := by
  simp only [SrpProof.intoServer, C19_agree_calculateSessionKey]

/-! ### client side, announced group: same outcome for every announced modulus and generator -/

/-- `PublicKey::client_try_from_bigint`: the zero test and the `% N'` test are on values, the copy is
    `C19_bytes_agree` -/
theorem C19_agree_clientTryFromBigint (b n : Nat) :
    PublicKey.clientTryFromBigint .num b n = PublicKey.clientTryFromBigint .rug b n := by
  simp only [PublicKey.clientTryFromBigint, padCopy32_indep .rug]

/-- `calculate_client_public_key`, every `a`, `g`, announced `N'` (zero, one, even, … included) -/
theorem C19_agree_calculateClientPublicKey (a : Bytes) (g : Nat) (nLE : Bytes) :
    (calculateClientPublicKey .num a g nLE).sameOutcome (calculateClientPublicKey .rug a g nLE) := by
  unfold calculateClientPublicKey
  apply Out.sameOutcome_bind (C19_modpow_sameOutcome _ _ _)
  intro A
  exact Out.sameOutcome_of_eq (C19_agree_clientTryFromBigint A _)

/-- `calculate_client_S` (negative base `B - k·g^x` included) -/
theorem C19_agree_calculateClientS (B x a u : Bytes) (g : Nat) (nLE : Bytes) :
    (calculateClientS .num B x a u g nLE).sameOutcome (calculateClientS .rug B x a u g nLE) := by
  unfold calculateClientS
  apply Out.sameOutcome_bind (C19_modpow_sameOutcome _ _ _)
  intro t
  apply Out.sameOutcome_bind (C19_modpow_sameOutcome _ _ _)
  intro s
  exact Out.sameOutcome_of_eq (toPadded32_indep .rug s).symm

/-- `SrpClientChallenge::new`, every announced group, every `B`, salt, private-key draw -/
theorem C19_agree_clientChallenge (C : Crypto) (u p : NStr) (g : Nat) (nLE B salt a : Bytes) :
    (SrpClientChallenge.new C .num u p g nLE B salt a).sameOutcome
      (SrpClientChallenge.new C .rug u p g nLE B salt a) := by
  unfold SrpClientChallenge.new
  apply Out.sameOutcome_bind (C19_agree_calculateClientPublicKey a g nLE)
  intro r
  cases r with
  | error e => exact Out.sameOutcome_panic _ _
  | ok A =>
    apply Out.sameOutcome_bind (C19_agree_calculateClientS _ _ _ _ _ _)
    intro S
    exact Out.sameOutcome_of_eq rfl

/-- with a non-zero announced modulus the client's results are literally equal … -/
theorem C19_agree_clientChallenge_eq (C : Crypto) (u p : NStr) (g : Nat) (nLE B salt a : Bytes)
    (hN : 0 < ofLE nLE) :
    SrpClientChallenge.new C .num u p g nLE B salt a = SrpClientChallenge.new C .rug u p g nLE B salt a := by
  simp only [SrpClientChallenge.new, calculateClientPublicKey, calculateClientS,
    Backend.modpow_indep .rug _ _ _ hN, C19_agree_clientTryFromBigint, toPadded32_indep .rug]

/-- … in particular with the built-in group -/
theorem C19_agree_clientChallenge_builtin (C : Crypto) (u p : NStr) (B salt a : Bytes) :
    SrpClientChallenge.new C .num u p gBig Gen.largeSafePrimeLE B salt a
      = SrpClientChallenge.new C .rug u p gBig Gen.largeSafePrimeLE B salt a :=
  C19_agree_clientChallenge_eq C u p gBig _ B salt a nBig_pos

/-- **C19 for a whole login** (DESIGN.md §5 calls it `C19_agree`): registration, optional storage round
    trip, challenge, client, server, M2 check give the same result — same keys, same A, B, M1, M2,
    verifier, same failure stage, same panic — under both back ends, for all credentials and all random
    draws -/
theorem C19_agree_runLogin_eq (C : Crypto) (us ps uc pc : List Char) (viaStorage : Bool)
    (salt b a challenge : Bytes) :
    runLogin C .num us ps uc pc viaStorage salt b a challenge
      = runLogin C .rug us ps uc pc viaStorage salt b a challenge := by
  simp only [runLogin, C19_agree_fromUsernameAndPassword, C19_agree_intoProof,
    C19_agree_clientChallenge_builtin, C19_agree_intoServer]

theorem C19_agree_runLogin (C : Crypto) (us ps uc pc : List Char) (viaStorage : Bool)
    (salt b a challenge : Bytes) :
    (runLogin C .num us ps uc pc viaStorage salt b a challenge).sameOutcome
      (runLogin C .rug us ps uc pc viaStorage salt b a challenge) :=
  LoginResult.sameOutcome_of_eq (C19_agree_runLogin_eq C us ps uc pc viaStorage salt b a challenge)

/-- exponent 0 (all-zero private-key draw): pre-fix rug panicked "exponent not greater than zero" -/
example : Backend.num.modpow 7 0 nBig = .ok 1 ∧ Backend.rug.modpow 7 0 nBig = .ok 1 := by
  decide +kernel
/-- even modulus: pre-fix rug panicked "modulo not odd" -/
example : Backend.num.modpow 7 5 22 = .ok 21 ∧ Backend.rug.modpow 7 5 22 = .ok 21 := by decide
/-- negative base, even modulus: `(-3)^5 mod 22 = 21`, `mod 23 = 10` -/
example : Backend.num.modpow (-3) 5 22 = .ok 21 ∧ Backend.rug.modpow (-3) 5 22 = .ok 21 ∧
    Backend.rug.modpow (-3) 5 23 = .ok 10 := by decide
/-- zero modulus: both panic, with different texts -/
example : Backend.num.modpow 7 5 0 = .panic "num-bigint modpow: zero modulus" ∧
    Backend.rug.modpow 7 5 0 = .panic "rug pow_mod: zero modulus" := by decide
/-- zero: `[0]` versus `[]`, the same 32-byte array -/
example : Backend.num.toBytesLe 0 = [0] ∧ Backend.rug.toBytesLe 0 = [] ∧
    padCopy 32 (Backend.num.toBytesLe 0) "s" = padCopy 32 (Backend.rug.toBytesLe 0) "s" :=
  ⟨rfl, toLE_zero, C19_bytes_agree_32 0 "s"⟩
/-- all-zero private key draw `b = 0`: both back ends give `B = 3·v + 1` -/
example (v : Bytes) :
    calculateServerPublicKey .num v (List.replicate 32 0) = calculateServerPublicKey .rug v (List.replicate 32 0) :=
  C19_agree_calculateServerPublicKey v _
/-- even announced modulus (`N' = 22`), generator 7: both back ends produce the same client key -/
example :
    calculateClientPublicKey .num [5] 7 [22] = .ok (.ok (leN 32 21)) ∧
    calculateClientPublicKey .rug [5] 7 [22] = .ok (.ok (leN 32 21)) := by decide +kernel

end WowSrp
