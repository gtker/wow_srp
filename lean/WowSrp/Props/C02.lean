/-
C02 — wrong credentials or any altered handshake value are rejected.
Model: `SrpProof.intoServer`, `SrpClientChallenge.verifyServerProof`, `calculateClientProof`,
`calculateServerProof`, `SrpClientChallenge.new` (WowSrp/Model/Srp.lean). All theorems for an
arbitrary `C : Crypto` (`C.WF` — output lengths — only where a layout has to be cut into fields or the
160 bit positions of a proof are counted); no collision resistance is assumed anywhere (DESIGN §2.2).

In the refusing branch the result is `.ok (.error ⟨presented, computed⟩)` of type
`Except MatchProofsError (SrpServer × Bytes)`: an `SrpServer` (resp. `SrpClient`) value exists only
under the `.ok` constructor, i.e. only after the whole-list comparison succeeded — that is what
"no authenticated session object comes into existence" means in the model, and it holds by the
result type together with `C02_server_eq` / `C02_client_eq`.
-/
import WowSrp.Lemmas.Srp
import WowSrp.Lemmas.Layout
namespace WowSrp
open WowSrp.Layout

/-- **server decision as one equation**. `K` is the session key the server derives (when that
    derivation returns): the result is the session object, holding `K` and the drawn challenge, together
    with `M2 = SHA-1(A | M1 | K)` exactly when the presented `M1` equals the server's own computation
    over (username, K, A, B, salt); otherwise the error carrying the presented and the computed proof -/
theorem C02_server_eq (C : Crypto) (be : Backend) (p : SrpProof) (A M1 chal K : Bytes)
    (hK : calculateSessionKey C be A p.serverPublicKey p.passwordVerifier p.serverPrivateKey = .ok K) :
    p.intoServer C be A M1 chal =
      .ok (if M1 = calculateClientProof C p.username.asRef K A p.serverPublicKey p.salt
        then .ok (⟨p.username, K, chal⟩, calculateServerProof C A M1 K)
        else .error ⟨M1, calculateClientProof C p.username.asRef K A p.serverPublicKey p.salt⟩) := by
  rw [SrpProof.intoServer_eq, hK]; rfl

/-- **server accepts iff** `M1` is the value determined by the stored verifier (through `K`), salt,
    username and the two public keys; then the session holds exactly (username, K, drawn challenge)
    and `M2 = SHA-1(A | M1 | K)` -/
theorem C02_server_iff (C : Crypto) (be : Backend) (p : SrpProof) (A M1 chal K : Bytes)
    (hK : calculateSessionKey C be A p.serverPublicKey p.passwordVerifier p.serverPrivateKey = .ok K)
    (srv : SrpServer) (M2 : Bytes) :
    p.intoServer C be A M1 chal = .ok (.ok (srv, M2)) ↔
      M1 = calculateClientProof C p.username.asRef K A p.serverPublicKey p.salt ∧
      srv = ⟨p.username, K, chal⟩ ∧ M2 = calculateServerProof C A M1 K := by
  rw [C02_server_eq C be p A M1 chal K hK, Out.ok.injEq, Except.ite_eq_ok, Prod.mk.injEq]

/-- **otherwise**: the error carries exactly the presented and the computed proof -/
theorem C02_server_error (C : Crypto) (be : Backend) (p : SrpProof) (A M1 chal K : Bytes)
    (hK : calculateSessionKey C be A p.serverPublicKey p.passwordVerifier p.serverPrivateKey = .ok K)
    (hne : M1 ≠ calculateClientProof C p.username.asRef K A p.serverPublicKey p.salt) :
    p.intoServer C be A M1 chal =
      .ok (.error ⟨M1, calculateClientProof C p.username.asRef K A p.serverPublicKey p.salt⟩) := by
  rw [C02_server_eq C be p A M1 chal K hK, if_neg hne]

/-- if the key derivation itself panics the call panics: no session object either -/
theorem C02_server_panic (C : Crypto) (be : Backend) (p : SrpProof) (A M1 chal : Bytes) (site : String)
    (hK : calculateSessionKey C be A p.serverPublicKey p.passwordVerifier p.serverPrivateKey = .panic site) :
    p.intoServer C be A M1 chal = .panic site := by
  rw [SrpProof.intoServer_eq, hK]; rfl

/-- **client decision as one equation**: the client object exists exactly when the presented `M2`
    equals SHA-1(own A | own M1 | own K) -/
theorem C02_client_eq (C : Crypto) (c : SrpClientChallenge) (M2 : Bytes) :
    c.verifyServerProof C M2 =
      if M2 = C.sha1 (c.clientPublicKey ++ c.clientProof ++ c.sessionKey)
      then .ok ⟨c.username, c.sessionKey⟩
      else .error ⟨C.sha1 (c.clientPublicKey ++ c.clientProof ++ c.sessionKey), M2⟩ :=
  SrpClientChallenge.verifyServerProof_spec C c M2

theorem C02_client_iff (C : Crypto) (c : SrpClientChallenge) (M2 : Bytes) (cl : SrpClient) :
    c.verifyServerProof C M2 = .ok cl ↔
      M2 = C.sha1 (c.clientPublicKey ++ c.clientProof ++ c.sessionKey) ∧ cl = ⟨c.username, c.sessionKey⟩ := by
  rw [C02_client_eq, Except.ite_eq_ok]

/-- **otherwise**: the error carries the computed proof (as `client_proof`) and the presented one -/
theorem C02_client_error (C : Crypto) (c : SrpClientChallenge) (M2 : Bytes)
    (hne : M2 ≠ C.sha1 (c.clientPublicKey ++ c.clientProof ++ c.sessionKey)) :
    c.verifyServerProof C M2 =
      .error ⟨C.sha1 (c.clientPublicKey ++ c.clientProof ++ c.sessionKey), M2⟩ := by
  rw [C02_client_eq, if_neg hne]

/-- **M1 layout**: xor-hash constant | SHA-1(username) | salt | A | B | K -/
theorem C02_M1_layout (C : Crypto) (U K A B salt : Bytes) :
    calculateClientProof C U K A B salt =
      C.sha1 (Gen.precalculatedXorHash ++ C.sha1 U ++ salt ++ A ++ B ++ K) := rfl

/-- the client computes M1 over the same layout, with the xor hash it derives from the announced
    group; `SrpClientChallenge.new` stores that value, its `A` and its `K` -/
theorem C02_client_M1 (C : Crypto) (be : Backend) (u pw : NStr) (g : Nat) (nLE B salt a : Bytes)
    (cc : SrpClientChallenge) (h : SrpClientChallenge.new C be u pw g nLE B salt a = .ok cc) :
    cc.username = u ∧
    cc.clientProof = C.sha1 (calculateXorHash C nLE g ++ C.sha1 u.asRef ++ salt ++ cc.clientPublicKey ++ B ++ cc.sessionKey) := by
  obtain ⟨_, _, _, _, _, _, rfl⟩ := SrpClientChallenge.new_eq_ok.1 h
  exact ⟨rfl, rfl⟩

/-- **every changed M1 is refused** (no hash reasoning): any presented value other than the server's
    own — in particular each single-bit change of it — is answered with the error carrying both -/
theorem C02_changed_bit_refused (C : Crypto) (be : Backend) (p : SrpProof) (A M1' chal K : Bytes)
    (hK : calculateSessionKey C be A p.serverPublicKey p.passwordVerifier p.serverPrivateKey = .ok K)
    (hne : M1' ≠ calculateClientProof C p.username.asRef K A p.serverPublicKey p.salt) :
    p.intoServer C be A M1' chal =
      .ok (.error ⟨M1', calculateClientProof C p.username.asRef K A p.serverPublicKey p.salt⟩) :=
  C02_server_error C be p A M1' chal K hK hne

/-- the 160 single-bit changes of the right M1 -/
theorem C02_flipped_M1_refused (C : Crypto) (hC : C.WF) (be : Backend) (p : SrpProof) (A chal K : Bytes)
    (hK : calculateSessionKey C be A p.serverPublicKey p.passwordVerifier p.serverPrivateKey = .ok K)
    (i : Nat) (hi : i < 160) :
    let M1s := calculateClientProof C p.username.asRef K A p.serverPublicKey p.salt
    p.intoServer C be A (flipBit M1s i) chal = .ok (.error ⟨flipBit M1s i, M1s⟩) :=
  C02_server_error C be p A _ chal K hK (flipBit_sha1_ne hC _ hi)

/-- **every changed M2 is refused** by the client -/
theorem C02_changed_bit_refused_M2 (C : Crypto) (c : SrpClientChallenge) (M2' : Bytes)
    (hne : M2' ≠ calculateServerProof C c.clientPublicKey c.clientProof c.sessionKey) :
    c.verifyServerProof C M2' =
      .error ⟨calculateServerProof C c.clientPublicKey c.clientProof c.sessionKey, M2'⟩ :=
  C02_client_error C c M2' hne

/-- the 160 single-bit changes of the right M2 -/
theorem C02_flipped_M2_refused (C : Crypto) (hC : C.WF) (c : SrpClientChallenge) (i : Nat) (hi : i < 160) :
    let M2s := calculateServerProof C c.clientPublicKey c.clientProof c.sessionKey
    c.verifyServerProof C (flipBit M2s i) = .error ⟨M2s, flipBit M2s i⟩ :=
  C02_client_error C c _ (flipBit_sha1_ne hC _ hi)

/-- **a changed salt, A, B, K or username hash that leaves M1 unchanged exhibits a collision**.
    Both proofs are computed by `calculate_client_proof`; salts and public keys are 32 bytes, hash
    outputs 20 bytes (`C.WF`). The session key is the last field, so its width (40 bytes in the Rust
    types) is not even needed: the theorem holds for keys of any length. -/
theorem C02_changed_field_gives_collision (C : Crypto) (hC : C.WF)
    (U U' salt salt' A A' B B' K K' : Bytes)
    (hs : salt.length = 32) (hs' : salt'.length = 32) (hA : A.length = 32) (hA' : A'.length = 32)
    (hB : B.length = 32) (hB' : B'.length = 32)
    (hdiff : salt ≠ salt' ∨ A ≠ A' ∨ B ≠ B' ∨ K ≠ K' ∨ C.sha1 U ≠ C.sha1 U')
    (heq : calculateClientProof C U K A B salt = calculateClientProof C U' K' A' B' salt') :
    ∃ m₁ m₂, m₁ = Gen.precalculatedXorHash ++ C.sha1 U ++ salt ++ A ++ B ++ K ∧
      m₂ = Gen.precalculatedXorHash ++ C.sha1 U' ++ salt' ++ A' ++ B' ++ K' ∧
      m₁ ≠ m₂ ∧ C.sha1 m₁ = C.sha1 m₂ := by
  refine ⟨_, _, rfl, rfl, ?_, heq⟩
  intro h
  obtain ⟨_, e2, e3, e4, e5, e6⟩ := layout6_inj rfl
    ((hC.sha1_len U).trans (hC.sha1_len U').symm) (hs.trans hs'.symm) (hA.trans hA'.symm)
    (hB.trans hB'.symm) h
  rcases hdiff with d | d | d | d | d
  · exact d e3
  · exact d e4
  · exact d e5
  · exact d e6
  · exact d e2

/-- **a changed username**: either the two names already collide under SHA-1 (that pair is returned),
    or the M1 inputs are a collision pair -/
theorem C02_changed_username_gives_collision (C : Crypto) (hC : C.WF)
    (U U' salt A B K : Bytes) (hne : U ≠ U')
    (heq : calculateClientProof C U K A B salt = calculateClientProof C U' K A B salt) :
    (C.sha1 U = C.sha1 U' ∧ ∃ m₁ m₂, m₁ = U ∧ m₂ = U' ∧ m₁ ≠ m₂ ∧ C.sha1 m₁ = C.sha1 m₂) ∨
    (C.sha1 U ≠ C.sha1 U' ∧
      ∃ m₁ m₂, m₁ = Gen.precalculatedXorHash ++ C.sha1 U ++ salt ++ A ++ B ++ K ∧
        m₂ = Gen.precalculatedXorHash ++ C.sha1 U' ++ salt ++ A ++ B ++ K ∧
        m₁ ≠ m₂ ∧ C.sha1 m₁ = C.sha1 m₂) := by
  by_cases h : C.sha1 U = C.sha1 U'
  · exact Or.inl ⟨h, U, U', rfl, rfl, hne, h⟩
  · right
    refine ⟨h, _, _, rfl, rfl, ?_, heq⟩
    intro hm
    iterate 4 replace hm := List.append_cancel_right hm
    exact h (List.append_cancel_left hm)

/-- **at the entry point**: the server (its own username, salt, B, the `A` it was handed, the `K` it
    derived) accepts an M1 that was computed by `calculate_client_proof` over other values ⇒ explicit
    collision pair (or, for a different name with the same hash, that pair of names) -/
theorem C02_changed_field_accepted_gives_collision (C : Crypto) (hC : C.WF) (be : Backend) (p : SrpProof)
    (A chal K : Bytes) (U' salt' A' B' K' : Bytes) (r : SrpServer × Bytes)
    (hKs : calculateSessionKey C be A p.serverPublicKey p.passwordVerifier p.serverPrivateKey = .ok K)
    (hs : p.salt.length = 32) (hs' : salt'.length = 32) (hA : A.length = 32) (hA' : A'.length = 32)
    (hB : p.serverPublicKey.length = 32) (hB' : B'.length = 32)
    (hdiff : p.salt ≠ salt' ∨ A ≠ A' ∨ p.serverPublicKey ≠ B' ∨ K ≠ K' ∨ p.username.asRef ≠ U')
    (hacc : p.intoServer C be A (calculateClientProof C U' K' A' B' salt') chal = .ok (.ok r)) :
    ∃ m₁ m₂, m₁ ≠ m₂ ∧ C.sha1 m₁ = C.sha1 m₂ ∧
      ((m₁ = p.username.asRef ∧ m₂ = U') ∨
       (m₁ = Gen.precalculatedXorHash ++ C.sha1 p.username.asRef ++ p.salt ++ A ++ p.serverPublicKey ++ K ∧
        m₂ = Gen.precalculatedXorHash ++ C.sha1 U' ++ salt' ++ A' ++ B' ++ K')) := by
  have heq := ((C02_server_iff C be p A _ chal K hKs r.1 r.2).1 hacc).1
  by_cases hm : Gen.precalculatedXorHash ++ C.sha1 p.username.asRef ++ p.salt ++ A ++ p.serverPublicKey ++ K =
      Gen.precalculatedXorHash ++ C.sha1 U' ++ salt' ++ A' ++ B' ++ K'
  · -- the same M1 input: every field agrees, so the change is in the name, under an equal hash
    obtain ⟨_, e2, e3, e4, e5, e6⟩ := layout6_inj rfl ((hC.sha1_len _).trans (hC.sha1_len _).symm)
      (hs.trans hs'.symm) (hA.trans hA'.symm) (hB.trans hB'.symm) hm
    rcases hdiff with d | d | d | d | d
    · exact absurd e3 d
    · exact absurd e4 d
    · exact absurd e5 d
    · exact absurd e6 d
    · exact ⟨_, _, d, e2, Or.inl ⟨rfl, rfl⟩⟩
  · exact ⟨_, _, hm, heq.symm, Or.inr ⟨rfl, rfl⟩⟩

/-! ### wrong password — PARTIAL by nature

Full statement one would like: "a client that ran `SrpClientChallenge::new` with a password other than
the one the verifier was made from is refused by `into_server`". That is not a theorem of any model of
SRP: the password enters M1 only through the session key `K` (`K_client` is derived from
`(B − k·g^x')^(a + u·x')`, `K_server` from `(A·v^u)^b`), and for particular `a, b` the two keys coincide
although `x' ≠ x` (probability ≈ 2⁻²⁵⁶ over `a, b`, but not zero), in which case the server *does* accept.
What is proved, at full generality (any client username, password, announced group, `B`, salt, private
key): acceptance implies an explicit SHA-1 collision pair **or** the two sides hold the same session key.
The second disjunct cannot be removed for all `a, b` because it is not false for all of them.

Continued in Props/C02Password.lean (it needs the value theorems of Props/C03.lean, which this file does
not import): `C02_wrong_password_three_way` adds the hypothesis `pw' ≠ pw` and takes the second disjunct
apart — interleave collision, `calculate_x` collision, or the arithmetic coincidence of the two secrets
with `x' ≠ x` — and `C02_wrong_username_collision` shows that another username always yields a collision. -/

/-- the server accepts what a client object computed ⇒ the two M1 inputs are an explicit collision
    pair, or they are one string and agree field by field -/
theorem C02_accepted_client (C : Crypto) (hC : C.WF) (be : Backend)
    (u' pw' : NStr) (g : Nat) (nLE B salt' a : Bytes) (cc : SrpClientChallenge)
    (p : SrpProof) (chal K : Bytes) (srv : SrpServer) (M2 : Bytes)
    (hclient : SrpClientChallenge.new C be u' pw' g nLE B salt' a = .ok cc)
    (hKs : calculateSessionKey C be cc.clientPublicKey p.serverPublicKey p.passwordVerifier
              p.serverPrivateKey = .ok K)
    (hB : B.length = p.serverPublicKey.length) (hs : salt'.length = p.salt.length)
    (hacc : p.intoServer C be cc.clientPublicKey cc.clientProof chal = .ok (.ok (srv, M2))) :
    (∃ m₁ m₂,
      m₁ = Gen.precalculatedXorHash ++ C.sha1 p.username.asRef ++ p.salt ++ cc.clientPublicKey ++
            p.serverPublicKey ++ srv.sessionKey ∧
      m₂ = calculateXorHash C nLE g ++ C.sha1 u'.asRef ++ salt' ++ cc.clientPublicKey ++ B ++ cc.sessionKey ∧
      m₁ ≠ m₂ ∧ C.sha1 m₁ = C.sha1 m₂) ∨
    (C.sha1 p.username.asRef = C.sha1 u'.asRef ∧ p.salt = salt' ∧ p.serverPublicKey = B ∧
      cc.sessionKey = srv.sessionKey) := by
  obtain ⟨hM1, rfl, _⟩ := (C02_server_iff C be p _ _ chal K hKs srv M2).1 hacc
  rw [(C02_client_M1 C be u' pw' g nLE B salt' a cc hclient).2, C02_M1_layout] at hM1
  by_cases hm : Gen.precalculatedXorHash ++ C.sha1 p.username.asRef ++ p.salt ++ cc.clientPublicKey ++
      p.serverPublicKey ++ K =
      calculateXorHash C nLE g ++ C.sha1 u'.asRef ++ salt' ++ cc.clientPublicKey ++ B ++ cc.sessionKey
  · obtain ⟨_, e2, e3, _, e5, e6⟩ := layout6_inj (calculateXorHash_length C hC nLE g).symm
      ((hC.sha1_len _).trans (hC.sha1_len _).symm) hs.symm rfl hB.symm hm
    exact Or.inr ⟨e2, e3, e5, e6.symm⟩
  · exact Or.inl ⟨_, _, rfl, rfl, hm, hM1.symm⟩

/-- **wrong password (partial)**: the server accepts what a client object computed ⇒ either the two
    M1 inputs are an explicit collision pair, or client and server derived the same session key -/
theorem C02_wrong_password_partial (C : Crypto) (hC : C.WF) (be : Backend)
    (u' pw' : NStr) (g : Nat) (nLE B salt' a : Bytes) (cc : SrpClientChallenge)
    (p : SrpProof) (chal K : Bytes) (srv : SrpServer) (M2 : Bytes)
    (hclient : SrpClientChallenge.new C be u' pw' g nLE B salt' a = .ok cc)
    (hKs : calculateSessionKey C be cc.clientPublicKey p.serverPublicKey p.passwordVerifier
              p.serverPrivateKey = .ok K)
    (hB : B.length = p.serverPublicKey.length) (hs : salt'.length = p.salt.length)
    (hacc : p.intoServer C be cc.clientPublicKey cc.clientProof chal = .ok (.ok (srv, M2))) :
    (∃ m₁ m₂,
      m₁ = Gen.precalculatedXorHash ++ C.sha1 p.username.asRef ++ p.salt ++ cc.clientPublicKey ++
            p.serverPublicKey ++ srv.sessionKey ∧
      m₂ = calculateXorHash C nLE g ++ C.sha1 u'.asRef ++ salt' ++ cc.clientPublicKey ++ B ++ cc.sessionKey ∧
      m₁ ≠ m₂ ∧ C.sha1 m₁ = C.sha1 m₂) ∨
    cc.sessionKey = srv.sessionKey :=
  (C02_accepted_client C hC be u' pw' g nLE B salt' a cc p chal K srv M2 hclient hKs hB hs hacc).imp_right
    (·.2.2.2)

section
private def Cconst : Crypto := ⟨fun _ => List.replicate 20 0, fun _ _ => List.replicate 20 0, fun _ => List.replicate 16 0⟩
private def b32 (x : UInt8) : Bytes := List.replicate 32 x
private def b40 (x : UInt8) : Bytes := List.replicate 40 x

example : Cconst.WF := ⟨fun _ => rfl, fun _ _ => rfl, fun _ => rfl⟩

/-- the hypotheses of `C02_changed_field_gives_collision` are jointly satisfiable (necessarily with a
    hash that has a known collision): 32-byte fields, a different salt, equal M1 -/
example : (b32 1).length = 32 ∧ (b32 2).length = 32 ∧ b32 1 ≠ b32 2 ∧
    calculateClientProof Cconst [0x41] (b40 3) (b32 4) (b32 5) (b32 1) =
      calculateClientProof Cconst [0x41] (b40 3) (b32 4) (b32 5) (b32 2) := by decide

/-- single-bit flips are real changes of a 20-byte proof: all 160 positions -/
example : ∀ i, i < 160 → flipBit (List.replicate 20 (0 : UInt8)) i ≠ List.replicate 20 0 :=
  fun i hi => flipBit_ne _ i (by simpa using hi)

private def uA : NStr := ⟨[0x41, 0,0,0,0,0,0,0,0,0,0,0,0,0,0,0], 1⟩
private def pB : NStr := ⟨[0x42, 0,0,0,0,0,0,0,0,0,0,0,0,0,0,0], 1⟩
private def z31 : Bytes := List.replicate 31 0
private def prf : SrpProof := ⟨uA, 90 :: 1 :: List.replicate 30 0, b32 5, 3 :: z31, 1 :: z31⟩
private def ccl : SrpClientChallenge := ⟨uA, List.replicate 20 0, 49 :: z31, b40 0⟩

/-- the hypotheses of `C02_wrong_password_partial` are jointly satisfiable, and its second disjunct
    does occur with a password other than the registered one: under the (degenerate) constant hash
    every password gives the same `x`, so the verifier `v = g^0 = 1` made for password "A" accepts the
    client that typed "B" (b = 3, a = 2, the real group) — both sides hold the same session key -/
example :
    SrpClientChallenge.new Cconst .num uA pB gBig Gen.largeSafePrimeLE prf.serverPublicKey prf.salt (2 :: z31)
      = .ok ccl ∧
    calculateSessionKey Cconst .num ccl.clientPublicKey prf.serverPublicKey prf.passwordVerifier
      prf.serverPrivateKey = .ok (b40 0) ∧
    prf.intoServer Cconst .num ccl.clientPublicKey ccl.clientProof [] =
      .ok (.ok (⟨uA, b40 0, []⟩, List.replicate 20 0)) ∧
    ccl.sessionKey = b40 0 := by
  have h2 : calculateSessionKey Cconst .num ccl.clientPublicKey prf.serverPublicKey prf.passwordVerifier
      prf.serverPrivateKey = .ok (b40 0) := by decide +kernel
  exact ⟨by decide +kernel, h2, (C02_server_iff _ _ _ _ _ _ _ h2 _ _).2 ⟨by decide, rfl, by decide⟩, rfl⟩
end

end WowSrp
