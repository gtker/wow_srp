/-
C11 — All header entry points agree; failed reads leave the cipher untouched.
Property theorems only; helper lemmas live in Lemmas/Io.lean (the std::io model), Lemmas/Facade.lean
(each wrapper and facade method as its inner call with `Out.mapOk` around it) and Lemmas/HeaderIo.lean.

Reading guide
* a reader is a script of `read()` results (`REv`), a writer a script of `write()` results (`WEv`);
  `readExact` / `writeAll` are std's loops over them (Model/Deps.lean), characterised completely by
  `readExact_ok_spec`, `readExact_fail_spec`, `writeAll_spec` (Lemmas/Io.lean);
* `pre` always denotes a *benign* prefix of a reader script: non-empty chunks of any sizes
  interleaved with any number of `Interrupted` results; `dataOf pre` are the bytes it carries;
* `ev.failKind = some k` says `ev` is a `read()` result that makes `read_exact` give up with kind `k`
  (`.err k` — any of the injected `io::ErrorKind`s —, `.eof`, an empty `.data`; both of the latter
  give `UnexpectedEof`).
-/
import WowSrp.Lemmas.HeaderIo
import WowSrp.Lemmas.Eval
namespace WowSrp

/-- tie to the source: the header lengths the wrappers read (regenerated on every run) -/
theorem C11_constants :
    Gen.vanillaServerHeaderLength = 4 ∧ Gen.vanillaClientHeaderLength = 6 ∧
    Gen.wrathClientHeaderLength = 6 ∧ Gen.wrathServerHeaderMinLength = 4 ∧
    Gen.wrathServerHeaderMaxLength = 5 := by decide

/-- **Vanilla/TBC `read_and_decrypt_server_header`**: whenever `read_exact` fails — whatever the
    reason, wherever in the 4 bytes — the wrapper returns that very error and the *same* half `h` -/
theorem C11_failed_read_server (e : Exp) (h : Half) (script rest : List REv) (k : IoKind)
    (hr : readExact script 4 [] = (.error k, rest)) :
    h.readServerHeader e script = .ok ⟨h, .error k, rest⟩ :=
  (Half.readServerHeader_eq_readThen e h script).trans (readThen_error hr)

/-- **Vanilla/TBC `read_and_decrypt_client_header`** (6 bytes), likewise -/
theorem C11_failed_read_client (e : Exp) (h : Half) (script rest : List REv) (k : IoKind)
    (hr : readExact script 6 [] = (.error k, rest)) :
    h.readClientHeader e script = .ok ⟨h, .error k, rest⟩ :=
  (Half.readClientHeader_eq_readThen e h script).trans (readThen_error hr)

/-- **Wrath `ServerDecrypterHalf::read_and_decrypt_client_header`** (6 bytes), likewise -/
theorem C11_failed_read_wrath_server (r : Rc4) (script rest : List REv) (k : IoKind)
    (hr : readExact script 6 [] = (.error k, rest)) :
    wServerReadHeader r script = .ok ⟨r, .error k, rest⟩ :=
  (wServerReadHeader_eq_readThen r script).trans (readThen_error hr)

/-- **Wrath `ClientDecrypterHalf::read_and_decrypt_server_header`**, failure within the first 4
    bytes: the same half comes back (RC4 state and the saved 4-byte header both untouched) -/
theorem C11_failed_read_wrath_client (h : WClientDec) (script rest : List REv) (k : IoKind)
    (hr : readExact script 4 [] = (.error k, rest)) :
    h.readServerHeader script = .ok ⟨h, .error k, rest⟩ := by
  simp only [WClientDec.readServerHeader, hr]

/-- **a failure injected at every byte offset of every fixed-length header kind, for every error
    kind**: the reader delivers `(dataOf pre).length < n` bytes (offset 0 … n-1, fragmented and
    interrupted at will) and then fails with `ev`; every wrapper reports that event's kind, leaves the
    cipher state untouched, and has consumed the script exactly up to the failing event -/
theorem C11_failed_read_at_offset (pre tail : List REv) (ev : REv) (k : IoKind)
    (hb : ∀ x ∈ pre, x.benign = true) (hk : ev.failKind = some k) :
    (∀ (e : Exp) (h : Half), (dataOf pre).length < 4 →
        h.readServerHeader e (pre ++ ev :: tail) = .ok ⟨h, .error k, tail⟩) ∧
    (∀ (e : Exp) (h : Half), (dataOf pre).length < 6 →
        h.readClientHeader e (pre ++ ev :: tail) = .ok ⟨h, .error k, tail⟩) ∧
    (∀ (r : Rc4), (dataOf pre).length < 6 →
        wServerReadHeader r (pre ++ ev :: tail) = .ok ⟨r, .error k, tail⟩) ∧
    (∀ (h : WClientDec), (dataOf pre).length < 4 →
        h.readServerHeader (pre ++ ev :: tail) = .ok ⟨h, .error k, tail⟩) :=
  ⟨fun e h hn => C11_failed_read_server e h _ _ k (readExact_fail_stop pre tail ev 4 k [] hb hn hk),
   fun e h hn => C11_failed_read_client e h _ _ k (readExact_fail_stop pre tail ev 6 k [] hb hn hk),
   fun r hn => C11_failed_read_wrath_server r _ _ k (readExact_fail_stop pre tail ev 6 k [] hb hn hk),
   fun h hn => C11_failed_read_wrath_client h _ _ k (readExact_fail_stop pre tail ev 4 k [] hb hn hk)⟩

/-- the reader simply has nothing more to give before the header is complete: `UnexpectedEof`,
    state untouched -/
theorem C11_failed_read_short (pre : List REv) (hb : ∀ x ∈ pre, x.benign = true) :
    (∀ (e : Exp) (h : Half), (dataOf pre).length < 4 →
        h.readServerHeader e pre = .ok ⟨h, .error kindUnexpectedEof, []⟩) ∧
    (∀ (e : Exp) (h : Half), (dataOf pre).length < 6 →
        h.readClientHeader e pre = .ok ⟨h, .error kindUnexpectedEof, []⟩) ∧
    (∀ (r : Rc4), (dataOf pre).length < 6 →
        wServerReadHeader r pre = .ok ⟨r, .error kindUnexpectedEof, []⟩) ∧
    (∀ (h : WClientDec), (dataOf pre).length < 4 →
        h.readServerHeader pre = .ok ⟨h, .error kindUnexpectedEof, []⟩) :=
  ⟨fun e h hn => C11_failed_read_server e h _ _ _ (readExact_fail_end pre 4 [] hb hn),
   fun e h hn => C11_failed_read_client e h _ _ _ (readExact_fail_end pre 6 [] hb hn),
   fun r hn => C11_failed_read_wrath_server r _ _ _ (readExact_fail_end pre 6 [] hb hn),
   fun h hn => C11_failed_read_wrath_client h _ _ _ (readExact_fail_end pre 4 [] hb hn)⟩

/-- non-vacuity: two bytes in two fragments with an interruption in between, then error kind 7 -/
example (e : Exp) (h : Half) :
    h.readServerHeader e [.data [1], .interrupted, .data [2], .err 7, .data [3, 4]]
      = .ok ⟨h, .error 7, [.data [3, 4]]⟩ :=
  (C11_failed_read_at_offset [.data [1], .interrupted, .data [2]] [.data [3, 4]] (.err 7) 7
    (by decide) rfl).1 e h (by decide)

/-- **failure at the fifth byte**: the first 4 bytes arrived and decrypted to a large-header marker,
    then the read of the 5th byte fails. The wrapper reports that error and the decrypter is exactly
    as after `attempt_decrypt_server_header(first 4 bytes)` (4 keystream bytes consumed, the 4
    plaintext bytes saved). The state is *not* the one before the call. -/
theorem C11_wrath_fifth_byte (h h' : WClientDec) (script rest rest' : List REv) (buf4 : Bytes) (k : IoKind)
    (h4 : readExact script 4 [] = (.ok buf4, rest))
    (ha : h.attempt buf4 = .ok (h', .additionalByteRequired))
    (h5 : readExact rest 1 [] = (.error k, rest')) :
    h.readServerHeader script = .ok ⟨h', .error k, rest'⟩ := by
  simp only [WClientDec.readServerHeader, h4, ha, Out.bind_ok, h5, Out.pure_eq]

/-- the same at script level: exactly 4 bytes (any fragmentation) and then a failing event -/
theorem C11_wrath_fifth_byte_at_offset (h h' : WClientDec) (pre tail : List REv) (ev : REv) (k : IoKind)
    (hb : ∀ x ∈ pre, x.benign = true) (h4 : (dataOf pre).length = 4) (hk : ev.failKind = some k)
    (ha : h.attempt (dataOf pre) = .ok (h', .additionalByteRequired)) :
    h.readServerHeader (pre ++ ev :: tail) = .ok ⟨h', .error k, tail⟩ := by
  obtain ⟨rest, hr, hs, hstop, hafter⟩ := readExact_benign_ok pre (ev :: tail) 4 hb (by omega)
  obtain ⟨e1, e2, e3⟩ := REv.failKind_spec hk tail
  rw [List.take_of_length_le (by omega)] at hr
  rw [List.drop_of_length_le (by omega), e1] at hs
  -- what is left of the script delivers nothing more and stops like `ev :: tail`
  exact C11_wrath_fifth_byte h h' _ rest tail _ k hr ha
    (by rw [readExact_fail_spec rest 1 [] (by rw [hs]; decide), hstop, hafter, e2, e3])

/-- **supplying the byte later completes the header**: after the failed call the caller holds the
    state `h'`; `h'.decrypt_large_server_header(b)` then yields exactly the header *and* the final
    state that an undisturbed read of the same five bytes would have produced from the original
    state `h` (for every clean reader delivering those five bytes) -/
theorem C11_wrath_fifth_byte_resume (h h' : WClientDec) (failing rest rest' : List REv) (buf4 : Bytes)
    (k : IoKind)
    (h4 : readExact failing 4 [] = (.ok buf4, rest))
    (ha : h.attempt buf4 = .ok (h', .additionalByteRequired))
    (h5 : readExact rest 1 [] = (.error k, rest')) :
    h.readServerHeader failing = .ok ⟨h', .error k, rest'⟩ ∧
    ∀ (clean r₄ r₅ : List REv) (b : UInt8),
      readExact clean 4 [] = (.ok buf4, r₄) → readExact r₄ 1 [] = (.ok [b], r₅) →
      h.readServerHeader clean =
        match h'.decryptLarge b with
        | .panic p => .panic p
        | .ok (h'', hdr) => .ok ⟨h'', .ok hdr, r₅⟩ := by
  refine ⟨C11_wrath_fifth_byte h h' failing rest rest' buf4 k h4 ha h5, ?_⟩
  intro clean r₄ r₅ b c4 c5
  simp only [WClientDec.readServerHeader, c4, ha, Out.bind_ok, c5, List.headD_cons]
  cases h'.decryptLarge b with
  | panic p => rfl
  | ok r => rfl

/-- non-vacuity: an RC4 state (the identity permutation) whose first keystream byte is 2, so that the
    bytes `82 01 02 03` decrypt to a large-header marker; the reader fails (kind 5) at the fifth byte -/
example :
    let h : WClientDec := ⟨⟨(Array.range 256).map UInt8.ofNat, 0, 0⟩, [0, 0, 0, 0]⟩
    ∃ h', h.attempt [0x82, 1, 2, 3] = .ok (h', .additionalByteRequired) ∧ h'.header = [0x80, 4, 5, 14] ∧
      h.readServerHeader ([.data [0x82, 1], .interrupted, .data [2, 3]] ++ .err 5 :: [])
        = .ok ⟨h', .error 5, []⟩ := by
  intro h
  have hk : (h.attempt [0x82, 1, 2, 3]).mapOk (fun r => (r.1.header, r.2))
      = .ok ([0x80, 4, 5, 14], .additionalByteRequired) := by
    simp only [h, Array.map_range]
    decide +kernel
  obtain ⟨⟨h', a⟩, ha, hk'⟩ := (Out.mapOk_eq_ok_iff _ _ _).1 hk
  obtain ⟨h1, rfl⟩ := Prod.mk.inj hk'
  exact ⟨h', ha, h1.symm, C11_wrath_fifth_byte_at_offset h h' _ [] (.err 5) 5 (by decide) rfl rfl ha⟩

/-- **every write wrapper is: typed helper, then `write_all`, result passed through unchanged.**
    The `io::Result` returned is literally `write_all`'s, the bytes that reached the writer are
    literally what `write_all` wrote, and the cipher has advanced by one header in either case
    (the header was encrypted into a local buffer before the write). -/
theorem C11_write_wrappers (script : List WEv) (size opcode : Nat) :
    (∀ (e : Exp) (h : Half), h.writeServerHeader e size opcode script =
        match h.encryptServerHeader e size opcode with
        | .panic p => .panic p
        | .ok (h', hdr) => .ok ⟨h', (writeAll script hdr []).1, (writeAll script hdr []).2⟩) ∧
    (∀ (e : Exp) (h : Half), h.writeClientHeader e size opcode script =
        match h.encryptClientHeader e size opcode with
        | .panic p => .panic p
        | .ok (h', hdr) => .ok ⟨h', (writeAll script hdr []).1, (writeAll script hdr []).2⟩) ∧
    (∀ (h : WServerEnc), h.writeServerHeader size opcode script =
        match h.encryptServerHeader size opcode with
        | .panic p => .panic p
        | .ok (h', hdr) => .ok ⟨h', (writeAll script hdr []).1, (writeAll script hdr []).2⟩) ∧
    (∀ (r : Rc4), wClientWriteHeader r size opcode script =
        match wClientEncryptHeader r size opcode with
        | .panic p => .panic p
        | .ok (r', hdr) => .ok ⟨r', (writeAll script hdr []).1, (writeAll script hdr []).2⟩) :=
  ⟨fun e h => by rw [Half.writeServerHeader_eq]; cases h.encryptServerHeader e size opcode <;> rfl,
   fun e h => by rw [Half.writeClientHeader_eq]; cases h.encryptClientHeader e size opcode <;> rfl,
   fun h => by rw [WServerEnc.writeServerHeader_eq]; cases h.encryptServerHeader size opcode <;> rfl,
   fun r => by rw [wClientWriteHeader_eq]; cases wClientEncryptHeader r size opcode <;> rfl⟩

/-- the same in terms of `wroteHeader` (Lemmas/HeaderIo.lean): once its typed helper has returned `(h', hdr)`, each
    wrapper is `wroteHeader h' script hdr`, so the four theorems below are about each of them -/
theorem C11_write_wrappers_wrote (script : List WEv) (size opcode : Nat) :
    (∀ (e : Exp) (h h' : Half) (hdr : Bytes), h.encryptServerHeader e size opcode = .ok (h', hdr) →
        h.writeServerHeader e size opcode script = wroteHeader h' script hdr) ∧
    (∀ (e : Exp) (h h' : Half) (hdr : Bytes), h.encryptClientHeader e size opcode = .ok (h', hdr) →
        h.writeClientHeader e size opcode script = wroteHeader h' script hdr) ∧
    (∀ (h h' : WServerEnc) (hdr : Bytes), h.encryptServerHeader size opcode = .ok (h', hdr) →
        h.writeServerHeader size opcode script = wroteHeader h' script hdr) ∧
    (∀ (r r' : Rc4) (hdr : Bytes), wClientEncryptHeader r size opcode = .ok (r', hdr) →
        wClientWriteHeader r size opcode script = wroteHeader r' script hdr) :=
  ⟨fun e h h' hdr hh => by rw [Half.writeServerHeader_eq, hh]; rfl,
   fun e h h' hdr hh => by rw [Half.writeClientHeader_eq, hh]; rfl,
   fun h h' hdr hh => by rw [WServerEnc.writeServerHeader_eq, hh]; rfl,
   fun r r' hdr hh => by rw [wClientWriteHeader_eq, hh]; rfl⟩

/-- **error propagation**: if `write_all` on the encrypted header fails with kind `k` — the writer's
    own error kind, or `WriteZero` when it returned `Ok(0)` — each wrapper returns `Err(k)`;
    strictly fewer than all header bytes, and only a prefix of the header, reached the writer -/
theorem C11_write_error_propagates {σ : Type} (st : σ) (script : List WEv) (hdr : Bytes) (k : IoKind)
    (hw : (writeAll script hdr []).1 = .error k) :
    ∃ m, m < hdr.length ∧ wroteHeader st script hdr = .ok ⟨st, .error k, hdr.take m⟩ := by
  obtain ⟨m, hm, hs⟩ := writeAll_error_sink script hdr [] k hw
  exact ⟨m, hm, by rw [wroteHeader, hw, hs, List.nil_append]⟩

/-- **success**: on `Ok(())` the bytes that reached the writer are exactly the bytes the typed helper
    returns -/
theorem C11_write_ok {σ : Type} (st : σ) (script : List WEv) (hdr : Bytes)
    (hw : (writeAll script hdr []).1 = .ok ()) :
    wroteHeader st script hdr = .ok ⟨st, .ok (), hdr⟩ := by
  rw [wroteHeader, hw, writeAll_ok_sink script hdr [] hw, List.nil_append]

/-- **a failure injected at every byte offset, for every error kind**: the writer accepts
    `accepted pre < hdr.length` bytes (in portions of any sizes ≥ 1, interrupted at will) and then
    fails with kind `k`, or returns `Ok(0)`: the wrapper's result is `Err(k)` resp. `Err(WriteZero)`
    and the writer holds exactly the first `accepted pre` header bytes -/
theorem C11_write_error_at_offset {σ : Type} (st : σ) (pre tail : List WEv) (hdr : Bytes) (k : IoKind)
    (hb : ∀ x ∈ pre, x.benign = true) (hlen : accepted pre < hdr.length) :
    wroteHeader st (pre ++ .err k :: tail) hdr = .ok ⟨st, .error k, hdr.take (accepted pre)⟩ ∧
    wroteHeader st (pre ++ .accept 0 :: tail) hdr
      = .ok ⟨st, .error kindWriteZero, hdr.take (accepted pre)⟩ := by
  constructor
  · rw [wroteHeader, writeAll_stop pre tail (.err k) hdr [] k hb hlen rfl, List.nil_append]
  · rw [wroteHeader, writeAll_stop pre tail (.accept 0) hdr [] _ hb hlen rfl, List.nil_append]

/-- a writer that takes everything, however slowly, gets everything -/
theorem C11_write_ok_fragmented {σ : Type} (st : σ) (pre tail : List WEv) (hdr : Bytes)
    (hb : ∀ x ∈ pre, x.benign = true) (hlen : tail = [] ∨ hdr.length ≤ accepted pre) :
    wroteHeader st (pre ++ tail) hdr = .ok ⟨st, .ok (), hdr⟩ := by
  rw [wroteHeader, writeAll_ok pre tail hdr [] hb hlen, List.nil_append]

/-- **never swallowed**, read off the wrapper's own return value `r`: its `io::Result` *is*
    `write_all`'s result on the header the typed helper produced, so a wrapper that returns `Ok(())`
    has handed every header byte to the writer, and a `write_all` error `k` comes back as `Err(k)` -/
theorem C11_write_never_swallowed (script : List WEv) (size opcode : Nat) :
    (∀ (e : Exp) (h : Half) r, h.writeServerHeader e size opcode script = .ok r →
      ∃ hdr, h.encryptServerHeader e size opcode = .ok (r.state, hdr) ∧
        r.result = (writeAll script hdr []).1 ∧ r.rest = (writeAll script hdr []).2 ∧
        (r.result = .ok () → r.rest = hdr)) ∧
    (∀ (e : Exp) (h : Half) r, h.writeClientHeader e size opcode script = .ok r →
      ∃ hdr, h.encryptClientHeader e size opcode = .ok (r.state, hdr) ∧
        r.result = (writeAll script hdr []).1 ∧ r.rest = (writeAll script hdr []).2 ∧
        (r.result = .ok () → r.rest = hdr)) ∧
    (∀ (h : WServerEnc) r, h.writeServerHeader size opcode script = .ok r →
      ∃ hdr, h.encryptServerHeader size opcode = .ok (r.state, hdr) ∧
        r.result = (writeAll script hdr []).1 ∧ r.rest = (writeAll script hdr []).2 ∧
        (r.result = .ok () → r.rest = hdr)) ∧
    (∀ (rc : Rc4) r, wClientWriteHeader rc size opcode script = .ok r →
      ∃ hdr, wClientEncryptHeader rc size opcode = .ok (r.state, hdr) ∧
        r.result = (writeAll script hdr []).1 ∧ r.rest = (writeAll script hdr []).2 ∧
        (r.result = .ok () → r.rest = hdr)) :=
  ⟨fun e h r hr => wrote_never_swallowed _ script r (Half.writeServerHeader_eq e h size opcode script ▸ hr),
   fun e h r hr => wrote_never_swallowed _ script r (Half.writeClientHeader_eq e h size opcode script ▸ hr),
   fun h r hr => wrote_never_swallowed _ script r (WServerEnc.writeServerHeader_eq h size opcode script ▸ hr),
   fun rc r hr => wrote_never_swallowed _ script r (wClientWriteHeader_eq rc size opcode script ▸ hr)⟩

/-- the helpers return 4 resp. 6 bytes, so "every byte offset" above means 0 … 3 resp. 0 … 5
    (Wrath server headers: 4 or 5, see C10) -/
theorem C11_header_lengths (e : Exp) (h h' : Half) (size opcode : Nat) (hdr : Bytes) :
    (h.encryptServerHeader e size opcode = .ok (h', hdr) → hdr.length = 4) ∧
    (h.encryptClientHeader e size opcode = .ok (h', hdr) → hdr.length = 6) :=
  ⟨fun hh => runSteps_length _ hh, fun hh => runSteps_length _ hh⟩

/-- a panic of the typed helper (impossible for well-formed halves, C07/C08) is a panic of the wrapper:
    nothing is written -/
theorem C11_write_panic (e : Exp) (h : Half) (size opcode : Nat) (script : List WEv) (p : String)
    (hp : h.encryptServerHeader e size opcode = .panic p) :
    h.writeServerHeader e size opcode script = .panic p := by
  rw [Half.writeServerHeader_eq, hp]; rfl

/-- non-vacuity: a Vanilla server header written to a writer that takes 1 byte, is interrupted,
    takes 2 more and then fails with kind 9: three ciphertext bytes are out, the error is reported,
    the cipher has advanced by the whole header -/
example :
    let K := (List.range 40).map UInt8.ofNat
    (Half.newEnc Crypto.real .vanilla K).writeServerHeader .vanilla 0x1234 0x01ee
        [.accept 1, .interrupted, .accept 2, .err 9, .accept 5]
      = .ok ⟨⟨K, 4, 0x35⟩, .error 9, [0x12, 0x47, 0x33]⟩ := by
  intro K
  have henc : (Half.newEnc Crypto.real .vanilla K).encryptServerHeader .vanilla 0x1234 0x01ee
      = .ok (⟨K, 4, 0x35⟩, [0x12, 0x47, 0x33, 0x35]) := by decide
  rw [(C11_write_wrappers_wrote _ _ _).1 _ _ _ _ henc]
  exact (C11_write_error_at_offset _ [.accept 1, .interrupted, .accept 2] [.accept 5] _ 9
    (by decide) (by decide)).1

/-- **Vanilla/TBC server header**: if `read_exact` delivers the 4 bytes `buf`, the wrapper's header and
    final state are those of `decrypt_server_header(buf)` -/
theorem C11_read_ok_server (e : Exp) (h : Half) (script rest : List REv) (buf : Bytes)
    (hr : readExact script 4 [] = (.ok buf, rest)) :
    h.readServerHeader e script =
      match h.decryptServerHeader e buf with
      | .panic p => .panic p
      | .ok (h', hdr) => .ok ⟨h', .ok hdr, rest⟩ := by
  rw [Half.readServerHeader_eq_readThen, readThen_ok hr]
  cases h.decryptServerHeader e buf <;> rfl

/-- **Vanilla/TBC client header** (6 bytes) -/
theorem C11_read_ok_client (e : Exp) (h : Half) (script rest : List REv) (buf : Bytes)
    (hr : readExact script 6 [] = (.ok buf, rest)) :
    h.readClientHeader e script =
      match h.decryptClientHeader e buf with
      | .panic p => .panic p
      | .ok (h', hdr) => .ok ⟨h', .ok hdr, rest⟩ := by
  rw [Half.readClientHeader_eq_readThen, readThen_ok hr]
  cases h.decryptClientHeader e buf <;> rfl

/-- **Wrath client header read by the server** (6 bytes) -/
theorem C11_read_ok_wrath_server (r : Rc4) (script rest : List REv) (buf : Bytes)
    (hr : readExact script 6 [] = (.ok buf, rest)) :
    wServerReadHeader r script =
      match wServerDecryptHeader r buf with
      | .panic p => .panic p
      | .ok (r', hdr) => .ok ⟨r', .ok hdr, rest⟩ := by
  rw [wServerReadHeader_eq_readThen, readThen_ok hr]
  cases wServerDecryptHeader r buf <;> rfl

/-- **Wrath server header read by the client, 4-byte case**: `attempt` on the 4 bytes yields a header -/
theorem C11_read_ok_wrath_client_small (h h' : WClientDec) (script rest : List REv) (buf4 : Bytes)
    (size opcode : Nat)
    (h4 : readExact script 4 [] = (.ok buf4, rest))
    (ha : h.attempt buf4 = .ok (h', .header size opcode)) :
    h.readServerHeader script = .ok ⟨h', .ok (size, opcode), rest⟩ := by
  simp only [WClientDec.readServerHeader, h4, ha, Out.bind_ok, Out.pure_eq]

/-- **Wrath server header read by the client, 5-byte case**: `attempt` asks for one more byte, the
    second `read_exact` delivers it (necessarily exactly one byte), `decrypt_large_server_header`
    finishes -/
theorem C11_read_ok_wrath_client_large (h h' : WClientDec) (script rest rest' : List REv) (buf4 b : Bytes)
    (h4 : readExact script 4 [] = (.ok buf4, rest))
    (ha : h.attempt buf4 = .ok (h', .additionalByteRequired))
    (h5 : readExact rest 1 [] = (.ok b, rest')) :
    ∃ b0, b = [b0] ∧
      h.readServerHeader script =
        match h'.decryptLarge b0 with
        | .panic p => .panic p
        | .ok (h'', hdr) => .ok ⟨h'', .ok hdr, rest'⟩ := by
  have hl := readExact_length rest 1 b rest' h5
  match b, hl with
  | [b0], _ =>
    refine ⟨b0, rfl, ?_⟩
    simp only [WClientDec.readServerHeader, h4, ha, Out.bind_ok, h5, List.headD_cons]
    cases h'.decryptLarge b0 with
    | panic p => rfl
    | ok r => rfl

/-- **fragmentation and interruptions change nothing (fixed-length headers)**: a reader that delivers at
    least `n` bytes in fragments of any sizes with any interruptions gives the header and state of
    the typed helper on the first `n` bytes — a function of the bytes alone — and leaves the unread
    bytes in the reader -/
theorem C11_read_fragmentation (pre tail : List REv) (hb : ∀ x ∈ pre, x.benign = true) :
    (∀ (e : Exp) (h : Half), 4 ≤ (dataOf pre).length →
      ∃ rest, streamOf rest = (dataOf pre).drop 4 ++ streamOf tail ∧
        h.readServerHeader e (pre ++ tail) =
          match h.decryptServerHeader e ((dataOf pre).take 4) with
          | .panic p => .panic p
          | .ok (h', hdr) => .ok ⟨h', .ok hdr, rest⟩) ∧
    (∀ (e : Exp) (h : Half), 6 ≤ (dataOf pre).length →
      ∃ rest, streamOf rest = (dataOf pre).drop 6 ++ streamOf tail ∧
        h.readClientHeader e (pre ++ tail) =
          match h.decryptClientHeader e ((dataOf pre).take 6) with
          | .panic p => .panic p
          | .ok (h', hdr) => .ok ⟨h', .ok hdr, rest⟩) ∧
    (∀ (r : Rc4), 6 ≤ (dataOf pre).length →
      ∃ rest, streamOf rest = (dataOf pre).drop 6 ++ streamOf tail ∧
        wServerReadHeader r (pre ++ tail) =
          match wServerDecryptHeader r ((dataOf pre).take 6) with
          | .panic p => .panic p
          | .ok (r', hdr) => .ok ⟨r', .ok hdr, rest⟩) := by
  refine ⟨fun e h hn => ?_, fun e h hn => ?_, fun r hn => ?_⟩
  · obtain ⟨rest, hr, hs, _, _⟩ := readExact_benign_ok pre tail 4 hb hn
    exact ⟨rest, hs, C11_read_ok_server e h _ rest _ hr⟩
  · obtain ⟨rest, hr, hs, _, _⟩ := readExact_benign_ok pre tail 6 hb hn
    exact ⟨rest, hs, C11_read_ok_client e h _ rest _ hr⟩
  · obtain ⟨rest, hr, hs, _, _⟩ := readExact_benign_ok pre tail 6 hb hn
    exact ⟨rest, hs, C11_read_ok_wrath_server r _ rest _ hr⟩

/-- the same for the variable-length Wrath server header: with the five bytes `buf4 ++ [b4]` available
    (in any fragmentation — in particular split anywhere between the two internal reads), the
    result is `attempt(buf4)` followed, if asked for, by `decrypt_large_server_header(b4)` -/
theorem C11_read_fragmentation_wrath_client (h : WClientDec) (pre tail : List REv) (buf4 more : Bytes)
    (b4 : UInt8) (hb : ∀ x ∈ pre, x.benign = true) (h4 : buf4.length = 4)
    (hd : dataOf pre = buf4 ++ b4 :: more) :
    ∃ rest₄ rest₅, streamOf rest₄ = b4 :: more ++ streamOf tail ∧ streamOf rest₅ = more ++ streamOf tail ∧
      h.readServerHeader (pre ++ tail) =
        match h.attempt buf4 with
        | .panic p => .panic p
        | .ok (h', .header size opcode) => .ok ⟨h', .ok (size, opcode), rest₄⟩
        | .ok (h', .additionalByteRequired) =>
          match h'.decryptLarge b4 with
          | .panic p => .panic p
          | .ok (h'', hdr) => .ok ⟨h'', .ok hdr, rest₅⟩ := by
  obtain ⟨r₄, e4, s4⟩ := readExact_prefix (pre ++ tail) buf4 (b4 :: more ++ streamOf tail)
    (by rw [(benign_append pre tail hb).1, hd, List.append_assoc])
  obtain ⟨r₅, e5, s5⟩ := readExact_prefix r₄ [b4] (more ++ streamOf tail) s4
  rw [h4] at e4
  refine ⟨r₄, r₅, s4, s5, ?_⟩
  simp only [WClientDec.readServerHeader, e4]
  rcases h.attempt buf4 with ⟨h', _ | _⟩ | _
  · rfl
  · simp only [Out.bind_ok, show readExact r₄ 1 [] = _ from e5, List.headD_cons]
    cases h'.decryptLarge b4 <;> rfl
  · rfl

/-- **two readers delivering the same bytes are indistinguishable**: same header or same error-free
    outcome and the same cipher state afterwards, for all four read wrappers
    (stated on the observable outcome `(state, io::Result)`) -/
theorem C11_read_fragmentation_same (pre₁ pre₂ tail₁ tail₂ : List REv)
    (hb₁ : ∀ x ∈ pre₁, x.benign = true) (hb₂ : ∀ x ∈ pre₂, x.benign = true)
    (hsame : dataOf pre₁ = dataOf pre₂) :
    (∀ (e : Exp) (h : Half), 4 ≤ (dataOf pre₁).length →
      (h.readServerHeader e (pre₁ ++ tail₁)).mapOk IoRes.outcome
        = (h.readServerHeader e (pre₂ ++ tail₂)).mapOk IoRes.outcome) ∧
    (∀ (e : Exp) (h : Half), 6 ≤ (dataOf pre₁).length →
      (h.readClientHeader e (pre₁ ++ tail₁)).mapOk IoRes.outcome
        = (h.readClientHeader e (pre₂ ++ tail₂)).mapOk IoRes.outcome) ∧
    (∀ (r : Rc4), 6 ≤ (dataOf pre₁).length →
      (wServerReadHeader r (pre₁ ++ tail₁)).mapOk IoRes.outcome
        = (wServerReadHeader r (pre₂ ++ tail₂)).mapOk IoRes.outcome) ∧
    (∀ (h : WClientDec), 5 ≤ (dataOf pre₁).length →
      (h.readServerHeader (pre₁ ++ tail₁)).mapOk IoRes.outcome
        = (h.readServerHeader (pre₂ ++ tail₂)).mapOk IoRes.outcome) := by
  refine ⟨fun e h hn => ?_, fun e h hn => ?_, fun r hn => ?_, fun h hn => ?_⟩
  · rw [Half.readServerHeader_eq_readThen, Half.readServerHeader_eq_readThen]
    exact readThen_fragmentation_same 4 _ h pre₁ pre₂ tail₁ tail₂ hb₁ hb₂ hsame hn
  · rw [Half.readClientHeader_eq_readThen, Half.readClientHeader_eq_readThen]
    exact readThen_fragmentation_same 6 _ h pre₁ pre₂ tail₁ tail₂ hb₁ hb₂ hsame hn
  · rw [wServerReadHeader_eq_readThen, wServerReadHeader_eq_readThen]
    exact readThen_fragmentation_same 6 _ r pre₁ pre₂ tail₁ tail₂ hb₁ hb₂ hsame hn
  · obtain ⟨buf4, b4, more, hsplit, hl⟩ : ∃ buf4 b4 more, dataOf pre₁ = buf4 ++ b4 :: more ∧ buf4.length = 4 :=
      ⟨_, _, _, (List.take_append_drop 4 _).symm.trans (congrArg _ (List.drop_eq_getElem_cons hn)),
        List.length_take_of_le (by omega)⟩
    obtain ⟨_, _, _, _, e1⟩ := C11_read_fragmentation_wrath_client h pre₁ tail₁ buf4 more b4 hb₁ hl hsplit
    obtain ⟨_, _, _, _, e2⟩ := C11_read_fragmentation_wrath_client h pre₂ tail₂ buf4 more b4 hb₂ hl (hsame ▸ hsplit)
    -- the two results differ in the remaining scripts only, which `outcome` drops
    rw [e1, e2]
    rcases h.attempt buf4 with ⟨h', _ | _⟩ | _
    · rfl
    · simp only
      cases h'.decryptLarge b4 <;> rfl
    · rfl

/-- non-vacuity: six bytes delivered as 1 + (interrupt) + 3 + 2, then an error that is never reached -/
example :
    let K := (List.range 40).map UInt8.ofNat
    ∃ rest, streamOf rest = [] ∧
      (Half.newDec Crypto.real .vanilla K).readClientHeader .vanilla
        ([.data [9], .interrupted, .data [8, 7, 6], .data [5, 4]] ++ [.err 3])
      = .ok ⟨⟨K, 6, 4⟩, .ok (0x09fe, 0xfafbfcfd), rest⟩ := by
  intro K
  obtain ⟨rest, hs, he⟩ := readThen_fragmentation 6 (Half.decryptClientHeader .vanilla)
    (Half.newDec Crypto.real .vanilla K) [.data [9], .interrupted, .data [8, 7, 6], .data [5, 4]] [.err 3]
    (by decide) (by decide)
  have hd : (Half.newDec Crypto.real .vanilla K).decryptClientHeader .vanilla [9, 8, 7, 6, 5, 4]
      = .ok (⟨K, 6, 4⟩, (0x09fe, 0xfafbfcfd)) := by decide
  exact ⟨rest, hs, by rw [Half.readClientHeader_eq_readThen, he]; exact Out.mapOk_ok _ hd⟩

/-- **server header wire layout**: big-endian size, little-endian opcode -/
theorem C11_layout_server (size opcode : Nat) :
    serverHeaderBytes size opcode =
      [UInt8.ofNat (size / 256 % 256), UInt8.ofNat (size % 256),
       UInt8.ofNat (opcode % 256), UInt8.ofNat (opcode / 256 % 256)] := rfl

/-- **client header wire layout**: big-endian `u16` size, little-endian `u32` opcode -/
theorem C11_layout_client (size opcode : Nat) :
    clientHeaderBytes size opcode =
      [UInt8.ofNat (size / 256 % 256), UInt8.ofNat (size % 256),
       UInt8.ofNat (opcode % 256), UInt8.ofNat (opcode / 256 % 256),
       UInt8.ofNat (opcode / 65536 % 256), UInt8.ofNat (opcode / 16777216 % 256)] := by
  simp only [clientHeaderBytes, be16, leN, List.cons_append, List.nil_append, Nat.div_div_eq_div_mul]

/-- the byte values, for arguments that fit their Rust types (`u16`, `u16`) -/
theorem C11_layout_server_values (size opcode : Nat) (hs : size < 65536) (ho : opcode < 65536) :
    (serverHeaderBytes size opcode).map UInt8.toNat = [size / 256, size % 256, opcode % 256, opcode / 256] := by
  rw [C11_layout_server]
  simp only [List.map_cons, List.map_nil, UInt8.toNat_ofNat']
  have h1 : size / 256 % 256 = size / 256 := Nat.mod_eq_of_lt (by omega)
  have h2 : opcode / 256 % 256 = opcode / 256 := Nat.mod_eq_of_lt (by omega)
  simp only [h1, h2, Nat.mod_mod, Nat.reducePow]

/-- **parse ∘ layout = id** for every `u16` size and `u16` opcode -/
theorem C11_parse_layout_server (size opcode : Nat) (hs : size < 65536) (ho : opcode < 65536) :
    parseServerHeader (serverHeaderBytes size opcode) = .ok (size, opcode) := by
  rw [C11_layout_server]
  simp only [parseServerHeader, UInt8.toNat_ofNat', Nat.reducePow, Nat.mod_mod]
  congr 2 <;> omega

/-- **parse ∘ layout = id** for every `u16` size and `u32` opcode -/
theorem C11_parse_layout_client (size opcode : Nat) (hs : size < 65536) (ho : opcode < 4294967296) :
    parseClientHeader (clientHeaderBytes size opcode) = .ok (size, opcode) := by
  rw [C11_layout_client]
  simp only [parseClientHeader, UInt8.toNat_ofNat', Nat.reducePow, Nat.mod_mod]
  congr 2 <;> omega

/-- **Vanilla/TBC typed helpers are the raw operation on the layout**: the encrypting helpers encrypt
    the layout bytes (same output bytes, same final state); the decrypting helpers decrypt the array
    and parse the plaintext with the inverse of the layout -/
theorem C11_typed_eq_raw (e : Exp) (h : Half) :
    (∀ size opcode, h.encryptServerHeader e size opcode = h.encrypt e (serverHeaderBytes size opcode)) ∧
    (∀ size opcode, h.encryptClientHeader e size opcode = h.encrypt e (clientHeaderBytes size opcode)) ∧
    (∀ data, h.decryptServerHeader e data =
      match h.decrypt e data with
      | .panic p => .panic p
      | .ok (h', plain) =>
        match parseServerHeader plain with
        | .panic p => .panic p
        | .ok hdr => .ok (h', hdr)) ∧
    (∀ data, h.decryptClientHeader e data =
      match h.decrypt e data with
      | .panic p => .panic p
      | .ok (h', plain) =>
        match parseClientHeader plain with
        | .panic p => .panic p
        | .ok hdr => .ok (h', hdr)) := by
  refine ⟨fun _ _ => rfl, fun _ _ => rfl, fun data => ?_, fun data => ?_⟩
  · unfold Half.decryptServerHeader
    cases h.decrypt e data with
    | panic p => rfl
    | ok r =>
      obtain ⟨h', plain⟩ := r
      simp only [Out.bind_ok]
      cases parseServerHeader plain <;> rfl
  · unfold Half.decryptClientHeader
    cases h.decrypt e data with
    | panic p => rfl
    | ok r =>
      obtain ⟨h', plain⟩ := r
      simp only [Out.bind_ok]
      cases parseClientHeader plain <;> rfl

/-- **Wrath typed helpers are the raw RC4 operation on the layout** (layouts themselves: C10).
    `ServerEncrypterHalf::encrypt_server_header` returns the bytes and the RC4 state of `encrypt` on
    the 4- or 5-byte layout (it additionally keeps a copy of them in its scratch buffer);
    the client helper encrypts the 6-byte client layout; the server-side decrypting helper applies
    RC4 and parses with the inverse of that layout; `attempt` / `decrypt_large` apply RC4 to the 4
    resp. 1 bytes they are given -/
theorem C11_typed_eq_raw_wrath :
    (∀ (h : WServerEnc) size opcode, h.encryptServerHeader size opcode =
      match h.encrypt (wrathServerHeaderBytes size opcode) with
      | .panic p => .panic p
      | .ok (h', out) => .ok (⟨h'.rc4, out ++ h.serverHeader.drop out.length⟩, out)) ∧
    (∀ (r : Rc4) size opcode, wClientEncryptHeader r size opcode = r.apply (clientHeaderBytes size opcode)) ∧
    (∀ (r : Rc4) data, wServerDecryptHeader r data =
      match r.apply data with
      | .panic p => .panic p
      | .ok (r', plain) =>
        match parseClientHeader plain with
        | .panic p => .panic p
        | .ok hdr => .ok (r', hdr)) ∧
    (∀ (h : WClientDec) buf, h.attempt buf =
      match h.decrypt buf with
      | .panic p => .panic p
      | .ok (h', plain) =>
        match plain with
        | [b0, b1, b2, b3] =>
          if largeHeader b0 then .ok (⟨h'.rc4, plain⟩, .additionalByteRequired)
          else .ok (h', .header (b0.toNat * 256 + b1.toNat) (b2.toNat + 256 * b3.toNat))
        | _ => .panic "header array length") ∧
    (∀ (h : WClientDec) byte, h.decryptLarge byte =
      match h.decrypt [byte] with
      | .panic p => .panic p
      | .ok (h', plain) =>
        match parseLarge (h.header ++ plain) with
        | .panic p => .panic p
        | .ok hdr => .ok (h', hdr)) := by
  refine ⟨fun h size opcode => ?_, fun _ _ _ => rfl, fun r data => ?_, fun h buf => ?_, fun h byte => ?_⟩
  · simp only [WServerEnc.encryptServerHeader, WServerEnc.encrypt]
    cases h.rc4.apply (wrathServerHeaderBytes size opcode) with
    | panic p => rfl
    | ok r => rfl
  · unfold wServerDecryptHeader
    cases r.apply data with
    | panic p => rfl
    | ok r =>
      obtain ⟨r', plain⟩ := r
      simp only [Out.bind_ok]
      cases parseClientHeader plain <;> rfl
  · unfold WClientDec.attempt WClientDec.decrypt
    cases h.rc4.apply buf with
    | panic p => rfl
    | ok r =>
      obtain ⟨r', plain⟩ := r
      simp only [Out.bind_ok, Out.pure_eq]
      match plain with
      | [] | [_] | [_, _] | [_, _, _] | _ :: _ :: _ :: _ :: _ :: _ => rfl
      | [b0, b1, b2, b3] =>
        simp only
        split <;> rfl
  · unfold WClientDec.decryptLarge WClientDec.decrypt
    cases h.rc4.apply [byte] with
    | panic p => rfl
    | ok r =>
      obtain ⟨r', plain⟩ := r
      simp only [Out.bind_ok, Out.pure_eq]
      cases parseLarge (h.header ++ plain) <;> rfl

/-- **every facade method of `HeaderCrypto` returns its half's result and replaces only that half** —
    including Vanilla's separately coded `HeaderCrypto::decrypt_client_header` (last clause, both
    expansions), which therefore agrees with `DecrypterHalf::decrypt_client_header` -/
theorem C11_facade_eq_half (e : Exp) (hc : HeaderCrypto) :
    (∀ d, hc.encryptData e d =
      match hc.encrypt.encrypt e d with
      | .panic p => .panic p
      | .ok (h', out) => .ok ({ hc with encrypt := h' }, out)) ∧
    (∀ d, hc.decryptData e d =
      match hc.decrypt.decrypt e d with
      | .panic p => .panic p
      | .ok (h', out) => .ok ({ hc with decrypt := h' }, out)) ∧
    (∀ size opcode, hc.encryptServerHeader e size opcode =
      match hc.encrypt.encryptServerHeader e size opcode with
      | .panic p => .panic p
      | .ok (h', out) => .ok ({ hc with encrypt := h' }, out)) ∧
    (∀ size opcode, hc.encryptClientHeader e size opcode =
      match hc.encrypt.encryptClientHeader e size opcode with
      | .panic p => .panic p
      | .ok (h', out) => .ok ({ hc with encrypt := h' }, out)) ∧
    (∀ d, hc.decryptServerHeader e d =
      match hc.decrypt.decryptServerHeader e d with
      | .panic p => .panic p
      | .ok (h', hdr) => .ok ({ hc with decrypt := h' }, hdr)) ∧
    (∀ d, hc.decryptClientHeader e d =
      match hc.decrypt.decryptClientHeader e d with
      | .panic p => .panic p
      | .ok (h', hdr) => .ok ({ hc with decrypt := h' }, hdr)) :=
  ⟨fun d => by rw [hc.encryptData_eq]; cases hc.encrypt.encrypt e d <;> rfl,
   fun d => by rw [hc.decryptData_eq]; cases hc.decrypt.decrypt e d <;> rfl,
   fun s o => by rw [hc.encryptServerHeader_eq]; cases hc.encrypt.encryptServerHeader e s o <;> rfl,
   fun s o => by rw [hc.encryptClientHeader_eq]; cases hc.encrypt.encryptClientHeader e s o <;> rfl,
   fun d => by rw [hc.decryptServerHeader_eq]; cases hc.decrypt.decryptServerHeader e d <;> rfl,
   fun d => by rw [hc.decryptClientHeader_eq]; cases hc.decrypt.decryptClientHeader e d <;> rfl⟩

/-- the same in "returns … ↔ the half returns …" form, for the raw data methods -/
theorem C11_facade_eq_half_iff (e : Exp) (hc hc' : HeaderCrypto) (d out : Bytes) :
    (hc.encryptData e d = .ok (hc', out) ↔
      ∃ h', hc.encrypt.encrypt e d = .ok (h', out) ∧ hc' = { hc with encrypt := h' }) ∧
    (hc.decryptData e d = .ok (hc', out) ↔
      ∃ h', hc.decrypt.decrypt e d = .ok (h', out) ∧ hc' = { hc with decrypt := h' }) := by
  rw [hc.encryptData_eq, hc.decryptData_eq]
  exact ⟨Out.mapOk_pair_eq_ok_iff _ (fun x => { hc with encrypt := x }) _ _,
    Out.mapOk_pair_eq_ok_iff _ (fun x => { hc with decrypt := x }) _ _⟩

/-- **the Read / Write wrappers of the combined object**
    (`HeaderCrypto::{read_and_decrypt_server_header, read_and_decrypt_client_header,
    write_encrypted_server_header, write_encrypted_client_header}`, Vanilla and TBC), for every reader /
    writer script: the facade's outcome is the half's wrapper's outcome (panic ↦ the same panic,
    `Out.mapOk`) with the new half put back into the *same* combined object; the `io::Result` and what
    is left of the reader script / what reached the sink are the half's -/
theorem C11_facade_io_eq_half (e : Exp) (hc : HeaderCrypto) :
    (∀ script, hc.readServerHeader e script =
      (hc.decrypt.readServerHeader e script).mapOk fun r =>
        ⟨{ hc with decrypt := r.state }, r.result, r.rest⟩) ∧
    (∀ script, hc.readClientHeader e script =
      (hc.decrypt.readClientHeader e script).mapOk fun r =>
        ⟨{ hc with decrypt := r.state }, r.result, r.rest⟩) ∧
    (∀ size opcode script, hc.writeServerHeader e size opcode script =
      (hc.encrypt.writeServerHeader e size opcode script).mapOk fun r =>
        ⟨{ hc with encrypt := r.state }, r.result, r.rest⟩) ∧
    (∀ size opcode script, hc.writeClientHeader e size opcode script =
      (hc.encrypt.writeClientHeader e size opcode script).mapOk fun r =>
        ⟨{ hc with encrypt := r.state }, r.result, r.rest⟩) :=
  ⟨hc.readServerHeader_eq e, hc.readClientHeader_eq e, hc.writeServerHeader_eq e, hc.writeClientHeader_eq e⟩

/-- **the same in "returns … ↔ the half returns …" / "panics ↔ the half panics" form**: the facade returns
    an `IoRes` iff the half's wrapper returns one with the same `io::Result` and the same remaining
    script / sink, and the facade's state is the old combined object with only that half replaced -/
theorem C11_facade_io_eq_half_iff (e : Exp) (hc : HeaderCrypto) (size opcode : Nat)
    (w : List WEv) (script : List REv) :
    (∀ R, hc.readServerHeader e script = .ok R ↔
      ∃ r, hc.decrypt.readServerHeader e script = .ok r ∧
        R.state = { hc with decrypt := r.state } ∧ R.result = r.result ∧ R.rest = r.rest) ∧
    (∀ R, hc.readClientHeader e script = .ok R ↔
      ∃ r, hc.decrypt.readClientHeader e script = .ok r ∧
        R.state = { hc with decrypt := r.state } ∧ R.result = r.result ∧ R.rest = r.rest) ∧
    (∀ R, hc.writeServerHeader e size opcode w = .ok R ↔
      ∃ r, hc.encrypt.writeServerHeader e size opcode w = .ok r ∧
        R.state = { hc with encrypt := r.state } ∧ R.result = r.result ∧ R.rest = r.rest) ∧
    (∀ R, hc.writeClientHeader e size opcode w = .ok R ↔
      ∃ r, hc.encrypt.writeClientHeader e size opcode w = .ok r ∧
        R.state = { hc with encrypt := r.state } ∧ R.result = r.result ∧ R.rest = r.rest) ∧
    (∀ p, (hc.readServerHeader e script = .panic p ↔ hc.decrypt.readServerHeader e script = .panic p) ∧
      (hc.readClientHeader e script = .panic p ↔ hc.decrypt.readClientHeader e script = .panic p) ∧
      (hc.writeServerHeader e size opcode w = .panic p ↔ hc.encrypt.writeServerHeader e size opcode w = .panic p) ∧
      (hc.writeClientHeader e size opcode w = .panic p ↔ hc.encrypt.writeClientHeader e size opcode w = .panic p)) := by
  rw [hc.readServerHeader_eq, hc.readClientHeader_eq, hc.writeServerHeader_eq, hc.writeClientHeader_eq]
  exact ⟨fun _ => Out.mapOk_io_eq_ok_iff _ (fun x => { hc with decrypt := x }) _,
    fun _ => Out.mapOk_io_eq_ok_iff _ (fun x => { hc with decrypt := x }) _,
    fun _ => Out.mapOk_io_eq_ok_iff _ (fun x => { hc with encrypt := x }) _,
    fun _ => Out.mapOk_io_eq_ok_iff _ (fun x => { hc with encrypt := x }) _,
    fun _ => ⟨Out.mapOk_eq_panic_iff .., Out.mapOk_eq_panic_iff .., Out.mapOk_eq_panic_iff ..,
      Out.mapOk_eq_panic_iff ..⟩⟩

/-- **a failed read through the facade leaves the whole combined object as it was**: if `read_exact`
    fails within the 4 bytes (`HeaderCrypto::read_and_decrypt_server_header`) / the 6 bytes
    (`HeaderCrypto::read_and_decrypt_client_header`) — whatever the reason, wherever — the facade reports
    the reader's error, has consumed the script as far as `read_exact` did, and returns the *same*
    object `hc` (both halves) -/
theorem C11_failed_read_facade (e : Exp) (hc : HeaderCrypto) (script rest : List REv) (k : IoKind) :
    (readExact script 4 [] = (.error k, rest) →
      hc.readServerHeader e script = .ok ⟨hc, .error k, rest⟩) ∧
    (readExact script 6 [] = (.error k, rest) →
      hc.readClientHeader e script = .ok ⟨hc, .error k, rest⟩) :=
  ⟨fun hr => by rw [hc.readServerHeader_eq, C11_failed_read_server e hc.decrypt script rest k hr]; rfl,
   fun hr => by rw [hc.readClientHeader_eq, C11_failed_read_client e hc.decrypt script rest k hr]; rfl⟩

/-- **injected at every byte offset, for every error kind**: the reader delivers fewer than 4 / 6 bytes
    (fragmented and interrupted at will: `pre` is a benign prefix), then fails with `ev`; the facade
    reports that event's kind, the combined object is unchanged, and the script has been consumed
    exactly up to the failing event -/
theorem C11_failed_read_facade_at_offset (e : Exp) (hc : HeaderCrypto) (pre tail : List REv) (ev : REv)
    (k : IoKind) (hb : ∀ x ∈ pre, x.benign = true) (hk : ev.failKind = some k) :
    ((dataOf pre).length < 4 →
      hc.readServerHeader e (pre ++ ev :: tail) = .ok ⟨hc, .error k, tail⟩) ∧
    ((dataOf pre).length < 6 →
      hc.readClientHeader e (pre ++ ev :: tail) = .ok ⟨hc, .error k, tail⟩) :=
  ⟨fun hn => (C11_failed_read_facade e hc _ _ k).1 (readExact_fail_stop pre tail ev 4 k [] hb hn hk),
   fun hn => (C11_failed_read_facade e hc _ _ k).2 (readExact_fail_stop pre tail ev 6 k [] hb hn hk)⟩

/-- the reader simply has nothing more to give before the header is complete: `UnexpectedEof`, the
    combined object untouched -/
theorem C11_failed_read_facade_short (e : Exp) (hc : HeaderCrypto) (pre : List REv)
    (hb : ∀ x ∈ pre, x.benign = true) :
    ((dataOf pre).length < 4 →
      hc.readServerHeader e pre = .ok ⟨hc, .error kindUnexpectedEof, []⟩) ∧
    ((dataOf pre).length < 6 →
      hc.readClientHeader e pre = .ok ⟨hc, .error kindUnexpectedEof, []⟩) :=
  ⟨fun hn => (C11_failed_read_facade e hc _ _ _).1 (readExact_fail_end pre 4 [] hb hn),
   fun hn => (C11_failed_read_facade e hc _ _ _).2 (readExact_fail_end pre 6 [] hb hn)⟩

/-- non-vacuity: three bytes in two fragments with an interruption in between, then error kind 7 -/
example (e : Exp) (hc : HeaderCrypto) :
    hc.readServerHeader e [.data [1], .interrupted, .data [2, 3], .err 7, .data [4, 5]]
      = .ok ⟨hc, .error 7, [.data [4, 5]]⟩ ∧
    hc.readClientHeader e [.data [1], .interrupted, .data [2, 3], .err 7, .data [4, 5]]
      = .ok ⟨hc, .error 7, [.data [4, 5]]⟩ :=
  have h := C11_failed_read_facade_at_offset e hc [.data [1], .interrupted, .data [2, 3]] [.data [4, 5]]
    (.err 7) 7 (by decide) rfl
  ⟨h.1 (by decide), h.2 (by decide)⟩

/-- **split halves are literally the two fields**, so using a split half *is* using the half the facade
    delegates to. The Read/Write wrappers exist on the halves *and* on the combined object
    (`HeaderCrypto.readServerHeader`, … in Model/Header.lean); the facade's are the halves' with the half
    put back (`C11_facade_io_eq_half`), so everything proved about the halves' wrappers above carries over -/
theorem C11_split_is_fields (hc : HeaderCrypto) : hc.split = (hc.encrypt, hc.decrypt) := rfl

/-- all four routes to a server header agree: facade, split half, typed helper, raw call on the layout -/
theorem C11_agree_encrypt_server_header (e : Exp) (hc : HeaderCrypto) (size opcode : Nat) :
    hc.encryptServerHeader e size opcode = hc.encryptData e (serverHeaderBytes size opcode) ∧
    hc.split.1.encryptServerHeader e size opcode = hc.encrypt.encrypt e (serverHeaderBytes size opcode) ∧
    hc.encryptClientHeader e size opcode = hc.encryptData e (clientHeaderBytes size opcode) ∧
    hc.split.1.encryptClientHeader e size opcode = hc.encrypt.encrypt e (clientHeaderBytes size opcode) :=
  ⟨rfl, rfl, rfl, rfl⟩

end WowSrp

#print axioms WowSrp.C11_facade_io_eq_half
#print axioms WowSrp.C11_facade_io_eq_half_iff
#print axioms WowSrp.C11_failed_read_facade
#print axioms WowSrp.C11_failed_read_facade_at_offset
#print axioms WowSrp.C11_failed_read_facade_short
#print axioms WowSrp.C11_split_is_fields
