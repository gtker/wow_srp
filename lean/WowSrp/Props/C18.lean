/-
C18 — matrix-card proofs match what a user reads off the printed card.
The selection Spec (`Spec.pick`) is in Spec/Pin.lean.

A card is `MatrixCard.WF` when `data.length = digit_count * height * width` (what `from_data` and
`new` guarantee), `1 ≤ width * height ≤ 255` and `digit_count ≥ 1`.
`c.cell i = (c.data.drop (i * d)).take d` is cell number `i` in printing order.
-/
import WowSrp.Lemmas.MatrixCard
namespace WowSrp

/-- tie to the definitions used below and to `from_data`: a card accepted by `from_data` has exactly
    `digit_count * height * width` digits, and `cell i` is the slice `data[i*d ..< i*d + d]` -/
theorem C18_defs (d h w : Nat) (data : Bytes) (c : MatrixCard) (i : Nat) :
    (MatrixCard.fromData d h w data = some c →
      c.data.length = c.digitCount * c.height * c.width ∧
      c.digitCount = d ∧ c.height = h ∧ c.width = w ∧ c.data = data) ∧
    c.cell i = (c.data.drop (i * c.digitCount)).take c.digitCount := by
  refine ⟨fun hf => ?_, rfl⟩
  rw [MatrixCard.fromData] at hf
  split at hf
  · cases hf
  · next hlen =>
    cases hf
    exact ⟨by simpa using hlen, rfl, rfl, rfl, rfl⟩

/-- **cell lookup = printed card**: for every position (x, y) on the card, `get_number_at_coordinates`
    returns (without panicking) the `d` digits starting at offset `(y*width + x) * d`, and that is
    exactly the cell `to_printer()` yields at index `y*width + x`, i.e. the one printed at row `y`,
    column `x` -/
theorem C18_cell (c : MatrixCard) (hc : c.WF) (x y : Nat) (hx : x < c.width) (hy : y < c.height) :
    let cell := (c.data.drop ((y * c.width + x) * c.digitCount)).take c.digitCount
    c.getNumberAt x y = .ok cell ∧ c.printed (y * c.width + x) = .ok (some cell) ∧
    cell.length = c.digitCount :=
  have hi := cellIndex_lt _ _ _ _ hx hy
  ⟨c.getNumberAt_eq hc x y hx hy, by rw [c.printed_eq hc, if_pos hi]; rfl, c.cell_length hc _ hi⟩

/-- **cells are distinct, non-overlapping, in printing order**: the printed card has exactly
    `width * height` cells; distinct positions (x, y) are distinct cell numbers; digit `k` of cell `i`
    is `data[i*d + k]`; and the index ranges `[i*d, (i+1)*d)` of two different cells do not meet -/
theorem C18_cells_disjoint (c : MatrixCard) (hc : c.WF) :
    (∀ i, (i < c.width * c.height → c.printed i = .ok (some (c.cell i))) ∧
          (c.width * c.height ≤ i → c.printed i = .ok none)) ∧
    (∀ x y x' y', x < c.width → x' < c.width → y * c.width + x = y' * c.width + x' → x = x' ∧ y = y') ∧
    (∀ i k, k < c.digitCount → (c.cell i)[k]? = c.data[i * c.digitCount + k]?) ∧
    (∀ i j k k', i ≠ j → k < c.digitCount → k' < c.digitCount →
        i * c.digitCount + k ≠ j * c.digitCount + k') := by
  refine ⟨fun i => ⟨fun h => by rw [c.printed_eq hc, if_pos h],
      fun h => by rw [c.printed_eq hc, if_neg (Nat.not_lt_of_le h)]⟩,
    fun x y x' y' hx hx' h => cellIndex_inj _ _ _ _ _ hx hx' h,
    fun i k hk => by rw [c.cell_getElem?, if_pos hk],
    -- digit `k` of cell `i` is "column `k` of row `i`" of a card `digitCount` wide
    fun i j k k' hij hk hk' h => hij (cellIndex_inj _ _ _ _ _ hk hk' h).2⟩

/-- **challenged cells**: for every card geometry of at most 255 cells, every challenge count up to
    the number of cells and every seed, `generate_coordinates` does not panic and returns the Spec's
    selection without replacement from the cell numbers `0 .. width*height-1`: exactly `count`
    entries, pairwise distinct, each on the card -/
theorem C18_coords (w h count seed : Nat) (hs : w * h ≤ 255) (hc : count ≤ w * h) :
    ∃ coords, generateCoordinates w h count seed = .ok coords ∧
      coords = (Spec.pick count (List.range (w * h)) seed).map UInt8.ofNat ∧
      coords.length = count ∧ coords.Nodup ∧ ∀ c ∈ coords, c.toNat < w * h :=
  ⟨_, by rw [generateCoordinates_eq, if_neg (Nat.not_lt_of_le hs), if_pos hc], rfl,
    coords_facts w h count seed hs hc⟩

/-- **challenged positions**: the verifier is constructed without panic, and for every round
    `r < count` `get_matrix_coordinates` returns a position `(x, y)` on the card, namely the decoding
    `y*width + x` of the `r`-th selected cell number; different rounds challenge different positions -/
theorem C18_coords_on_card (C : Crypto) (w h count seed : Nat) (K : Bytes)
    (hs : w * h ≤ 255) (hc : count ≤ w * h) :
    ∃ v coords, MCVerifier.new C count h seed w K = .ok v ∧
      generateCoordinates w h count seed = .ok coords ∧ v.coordinates = coords ∧
      (∀ r, r < count → ∃ x y, v.getCoordinates r = .ok (some (x, y)) ∧ x < w ∧ y < h ∧
          ∃ hr : r < coords.length, y * w + x = coords[r].toNat) ∧
      (∀ r r', r < count → r' < count → v.getCoordinates r = v.getCoordinates r' → r = r') := by
  have hnew := MCVerifier.new_eq C count h seed w K
  obtain ⟨coords, hg, rfl, f1, f2, f3⟩ := C18_coords w h count seed hs hc
  rw [hg, Out.bind_ok] at hnew
  have hlt := fun r hr => MCVerifier.getCoordinates_lt
    ⟨count, h, w, _, C.md5 (leN 8 seed ++ K), [], Rc4.keyed (C.md5 (leN 8 seed ++ K))⟩ r hr f1 f3
  refine ⟨_, _, hnew, hg, rfl, hlt, fun r r' hr hr' he => ?_⟩
  obtain ⟨x, y, e1, _, _, q1, p1⟩ := hlt r hr
  obtain ⟨x', y', e2, _, _, q2, p2⟩ := hlt r' hr'
  cases (e1.symm.trans he).trans e2
  exact (List.getElem_inj f2).mp (UInt8.toNat_inj.mp (p1.symm.trans p2))

/-- **round bound, any parameters**: whatever the geometry, count, seed and key — whenever
    `MatrixCardVerifier::new` returns a verifier at all, no round panics, and rounds at or beyond the
    count yield no coordinates -/
theorem C18_round_bound_any (C : Crypto) (w h count seed : Nat) (K : Bytes) (v : MCVerifier)
    (hnew : MCVerifier.new C count h seed w K = .ok v) (round : Nat) :
    (round ≥ count → v.getCoordinates round = .ok none) ∧ ∃ res, v.getCoordinates round = .ok res := by
  -- `new` returns only where `generate_coordinates` does, i.e. on the parameters of `C18_coords_on_card`
  rw [MCVerifier.new_eq, generateCoordinates_eq] at hnew
  split at hnew
  · cases hnew
  split at hnew
  · next hs hc =>
    cases hnew
    obtain ⟨f1, _, f3⟩ := coords_facts w h count seed (Nat.le_of_not_lt hs) hc
    exact ⟨fun hge => MCVerifier.getCoordinates_ge _ round hge, MCVerifier.getCoordinates_ok _ f1 f3 round⟩
  · cases hnew

/-- **round bound**: for a verifier built with parameters as above, asking for any round at or beyond
    the challenge count yields no coordinates, and no round whatsoever (0..255 and beyond) panics -/
theorem C18_round_bound (C : Crypto) (w h count seed : Nat) (K : Bytes)
    (hs : w * h ≤ 255) (hc : count ≤ w * h) :
    ∃ v, MCVerifier.new C count h seed w K = .ok v ∧
      ∀ round, (round ≥ count → v.getCoordinates round = .ok none) ∧
               ∃ res, v.getCoordinates round = .ok res := by
  obtain ⟨v, _, hnew, _⟩ := C18_coords_on_card C w h count seed K hs hc
  exact ⟨v, hnew, C18_round_bound_any C w h count seed K v hnew⟩

/-- **a reading exists**: for every well-formed card and every verifier as above there is a sequence of
    cells satisfying `ReadsOffCard` (so `C18_accept` / `C18_reject` are not vacuous), namely the card's
    cells at the challenged numbers -/
theorem C18_reads_exists (C : Crypto) (card : MatrixCard) (hc : card.WF) (count seed : Nat) (K : Bytes)
    (hcount : count ≤ card.width * card.height) :
    ∃ v0 cells, MCVerifier.new C count card.height seed card.width K = .ok v0 ∧
      ReadsOffCard card v0 cells ∧ cells.length = count := by
  obtain ⟨v0, _, hnew, _, hcnt, hreads, _⟩ := verify_session C card hc count seed K hcount
  exact ⟨v0, _, hnew, hreads, hreads.1.trans hcnt⟩

/-- **accept, and the proof formula**: the client builds the verifier, enters — for rounds
    `0 .. count-1`, in round order — the digits printed at the challenged cells, and calls `into_proof`.
    Nothing panics; the proof is `HMAC-SHA1(key = MD5(seed_le8 | session key), RC4_{that MD5}(digits))`
    (RC4 keyed by the same MD5, no keystream dropped); and `verify_matrix_card_hash` accepts it -/
theorem C18_accept (C : Crypto) (card : MatrixCard) (hc : card.WF) (count seed : Nat) (K : Bytes)
    (hcount : count ≤ card.width * card.height) :
    ∃ v0 r0, MCVerifier.new C count card.height seed card.width K = .ok v0 ∧
      Rc4.new (C.md5 (leN 8 seed ++ K)) = .ok r0 ∧
      ∀ cells, ReadsOffCard card v0 cells →
        ∃ v1 r1 enc, v0.enterValues cells.flatten = .ok v1 ∧
          r0.apply cells.flatten = .ok (r1, enc) ∧
          v1.intoProof C = C.hmac (C.md5 (leN 8 seed ++ K)) enc ∧
          verifyMatrixCardHash C card count seed K (v1.intoProof C) = .ok true := by
  obtain ⟨v0, r0, hnew, hr0, _, _, henter, hver⟩ := verify_session C card hc count seed K hcount
  refine ⟨v0, r0, hnew, hr0, fun cells hcells => ?_⟩
  obtain ⟨v1, r1, enc, he, ha, hp⟩ := henter cells.flatten
  obtain ⟨r1', enc', ha', hv⟩ := hver cells hcells
  cases ha.symm.trans ha'
  exact ⟨v1, r1, enc, he, ha, hp, by rw [hv, hp, beq_self_eq_true]⟩

/-- **reject**: if the client enters any other digit sequence (of any length) the proof it obtains is
    rejected — unless THE two RC4 ciphertexts form an HMAC collision under the key
    `MD5(seed | session key)`. The pair is pinned: `enc` is the RC4 encryption (from the fresh state
    `r0` keyed by that MD5) of the digits printed at the challenged cells, `enc'` the RC4 encryption
    (from the same state) of what was entered; they are different byte strings because RC4 encryption
    from a fixed state is injective; the proof the client obtains is `HMAC(k, enc')`, the server
    expects `HMAC(k, enc)`; and acceptance is possible only if `HMAC(k, enc) = HMAC(k, enc')` for that
    very pair — not for some unrelated pair of messages (which, by pigeonhole, always exists). -/
theorem C18_reject (C : Crypto) (card : MatrixCard) (hc : card.WF) (count seed : Nat) (K : Bytes)
    (hcount : count ≤ card.width * card.height) :
    ∃ v0 r0, MCVerifier.new C count card.height seed card.width K = .ok v0 ∧
      Rc4.new (C.md5 (leN 8 seed ++ K)) = .ok r0 ∧
      ∀ cells, ReadsOffCard card v0 cells → ∀ entered : Bytes, entered ≠ cells.flatten →
        ∃ v1' r1 enc r1' enc', v0.enterValues entered = .ok v1' ∧
          r0.apply cells.flatten = .ok (r1, enc) ∧
          r0.apply entered = .ok (r1', enc') ∧
          v1'.intoProof C = C.hmac (C.md5 (leN 8 seed ++ K)) enc' ∧
          enc ≠ enc' ∧
          (verifyMatrixCardHash C card count seed K (v1'.intoProof C) = .ok false ∨
           C.hmac (C.md5 (leN 8 seed ++ K)) enc = C.hmac (C.md5 (leN 8 seed ++ K)) enc') := by
  obtain ⟨v0, r0, hnew, hr0, _, _, henter, hver⟩ := verify_session C card hc count seed K hcount
  refine ⟨v0, r0, hnew, hr0, fun cells hcells entered hne => ?_⟩
  obtain ⟨v1', r1', enc', he, ha', hp⟩ := henter entered
  obtain ⟨r1, enc, ha, hv⟩ := hver cells hcells
  -- RC4 from a fixed state is injective, so the two ciphertexts differ
  refine ⟨v1', r1, enc, r1', enc', he, ha, ha', hp,
    fun heq => hne (Rc4.apply_injective r0 _ _ _ _ _ ha' (heq ▸ ha)), ?_⟩
  rw [hv, hp]
  by_cases hh : C.hmac (C.md5 (leN 8 seed ++ K)) enc = C.hmac (C.md5 (leN 8 seed ++ K)) enc'
  · exact .inr hh
  · exact .inl (by rw [beq_false_of_ne hh])

/-- **reject, decision form**: with the same pinned pair, the server's verdict on the proof made from
    any other digit sequence is exactly "do THE two ciphertexts collide under HMAC": it never panics,
    and it is `true` iff `HMAC(k, enc) = HMAC(k, enc')`. Under any HMAC without a collision on that
    pair the verdict is `false`. -/
theorem C18_reject_iff (C : Crypto) (card : MatrixCard) (hc : card.WF) (count seed : Nat) (K : Bytes)
    (hcount : count ≤ card.width * card.height) :
    ∃ v0 r0, MCVerifier.new C count card.height seed card.width K = .ok v0 ∧
      Rc4.new (C.md5 (leN 8 seed ++ K)) = .ok r0 ∧
      ∀ cells, ReadsOffCard card v0 cells → ∀ entered : Bytes, entered ≠ cells.flatten →
        ∃ v1' r1 enc r1' enc' b, v0.enterValues entered = .ok v1' ∧
          r0.apply cells.flatten = .ok (r1, enc) ∧
          r0.apply entered = .ok (r1', enc') ∧
          enc ≠ enc' ∧
          verifyMatrixCardHash C card count seed K (v1'.intoProof C) = .ok b ∧
          (b = true ↔
            C.hmac (C.md5 (leN 8 seed ++ K)) enc = C.hmac (C.md5 (leN 8 seed ++ K)) enc') := by
  obtain ⟨v0, r0, hnew, hr0, _, _, henter, hver⟩ := verify_session C card hc count seed K hcount
  refine ⟨v0, r0, hnew, hr0, fun cells hcells entered hne => ?_⟩
  obtain ⟨v1', r1', enc', he, ha', hp⟩ := henter entered
  obtain ⟨r1, enc, ha, hv⟩ := hver cells hcells
  exact ⟨v1', r1, enc, r1', enc', _, he, ha, ha',
    fun heq => hne (Rc4.apply_injective r0 _ _ _ _ _ ha' (heq ▸ ha)), hv _, by rw [hp, beq_iff_eq]⟩

/-- the weaker form of `C18_reject` with the collision pair existentially quantified instead of pinned: a corollary -/
theorem C18_reject_unpinned (C : Crypto) (card : MatrixCard) (hc : card.WF) (count seed : Nat) (K : Bytes)
    (hcount : count ≤ card.width * card.height) :
    ∃ v0, MCVerifier.new C count card.height seed card.width K = .ok v0 ∧
      ∀ cells, ReadsOffCard card v0 cells → ∀ entered : Bytes, entered ≠ cells.flatten →
        ∃ v1', v0.enterValues entered = .ok v1' ∧
          (verifyMatrixCardHash C card count seed K (v1'.intoProof C) = .ok false ∨
           ∃ m₁ m₂, m₁ ≠ m₂ ∧
             C.hmac (C.md5 (leN 8 seed ++ K)) m₁ = C.hmac (C.md5 (leN 8 seed ++ K)) m₂) := by
  obtain ⟨v0, r0, hnew, _, h⟩ := C18_reject C card hc count seed K hcount
  refine ⟨v0, hnew, fun cells hcells entered hne => ?_⟩
  obtain ⟨v1', _, enc, _, enc', he, _, _, _, hd, hor⟩ := h cells hcells entered hne
  exact ⟨v1', he, hor.imp id fun hh => ⟨enc, enc', hd, hh⟩⟩

/-- a 2-digit, 3-row, 4-column card with all cells different -/
def exampleCard : MatrixCard :=
  ⟨2, 4, 3, [0,0, 0,1, 0,2, 0,3,  1,0, 1,1, 1,2, 1,3,  2,0, 2,1, 2,2, 2,3]⟩

example : MatrixCard.fromData 2 3 4 exampleCard.data = some exampleCard := by decide
theorem exampleCard_wf : exampleCard.WF := ⟨by decide, by decide, by decide, by decide⟩
/-- (1,0) ↦ bytes 2..3, (0,1) ↦ bytes 8..9, (0,0) ↦ bytes 0..1, (3,2) ↦ the last cell; and the printed
    card agrees (the defect the property describes made the first three coincide) -/
example :
    exampleCard.getNumberAt 1 0 = .ok [0, 1] ∧ exampleCard.printed 1 = .ok (some [0, 1]) ∧
    exampleCard.getNumberAt 0 1 = .ok [1, 0] ∧ exampleCard.printed 4 = .ok (some [1, 0]) ∧
    exampleCard.getNumberAt 0 0 = .ok [0, 0] ∧ exampleCard.printed 0 = .ok (some [0, 0]) ∧
    exampleCard.getNumberAt 3 2 = .ok [2, 3] ∧ exampleCard.printed 11 = .ok (some [2, 3]) ∧
    exampleCard.printed 12 = .ok none := by decide
/-- the Rust unit test's coordinates: (7,2), (0,0), (4,1) on an 8-wide, 10-high card -/
example : generateCoordinates 8 10 3 14574472801782155463 = .ok [23, 0, 12] := by
  rw [generateCoordinates_eq]; decide +kernel
example : (8 * 10 ≤ 255) ∧ (3 ≤ 8 * 10) ∧ 23 = 2 * 8 + 7 ∧ 12 = 1 * 8 + 4 := by decide
/-- the hypotheses of `C18_accept` / `C18_reject` / `C18_reads_exists` are met by the example card with
    3 challenges (any hash functions, seed 7, any session key) -/
example (C : Crypto) (K : Bytes) : True := by
  have _ := C18_accept C exampleCard exampleCard_wf 3 7 K (by decide)
  have _ := C18_reject C exampleCard exampleCard_wf 3 7 K (by decide)
  have _ := C18_reads_exists C exampleCard exampleCard_wf 3 7 K (by decide)
  trivial
/-- the largest geometry and a full-length challenge are covered -/
example : (255 * 1 ≤ 255) ∧ (255 ≤ 255 * 1) := by decide

/-- with an HMAC that is injective in the message (here: the identity on the message) the collision
    disjunct of `C18_reject` is impossible, so the theorem does force rejection: on the example card
    every wrong entry is refused -/
example (K : Bytes) (entered : Bytes) :
    let C : Crypto := ⟨fun _ => [], fun _ m => m, fun _ => List.replicate 16 0⟩
    ∀ v0 cells, MCVerifier.new C 3 exampleCard.height 7 exampleCard.width K = .ok v0 →
      ReadsOffCard exampleCard v0 cells → entered ≠ cells.flatten →
      ∃ v1', v0.enterValues entered = .ok v1' ∧
        verifyMatrixCardHash C exampleCard 3 7 K (v1'.intoProof C) = .ok false := by
  intro C v0 cells hv hcells hne
  obtain ⟨v0', r0, hnew, _, h⟩ := C18_reject C exampleCard exampleCard_wf 3 7 K (by decide)
  rw [hv] at hnew; injection hnew with hnew; subst hnew
  obtain ⟨v1', _, enc, _, enc', he, _, _, _, hd, hor⟩ := h cells hcells entered hne
  exact ⟨v1', he, hor.resolve_right hd⟩

#print axioms C18_reject
#print axioms C18_reject_iff
#print axioms C18_reject_unpinned

end WowSrp
