/-
C09 — Wrath header streams are RC4-drop1024 under direction-specific HMAC keys.
Property theorems only; helper lemmas live in Lemmas/Rc4.lean, the textbook RC4 in Spec/Rc4.lean.

What is NOT a theorem, and is not claimed: "the two directions never share a keystream" for ALL
session keys. RC4 has colliding keys and HMAC is not injective (and `C : Crypto` is arbitrary here), so
for some hypothetical K the two derived RC4 states could coincide. What is proved is
* the *constant assignment* (`C09_directions`): S ≠ R, client-encrypt and server-decrypt use S,
  server-encrypt and client-decrypt use R;
* a *reduction* (`C09_shared_state_gives_key_collision`, `C09_no_key_collision_gives_disjoint_states`):
  the PRGA step is a bijection on intact states (`Lemmas/Rc4Inv.lean`), so if the two directions are EVER
  in the same RC4 state after the same number of bytes — right after the 1024-byte drop or a million
  bytes later — then already `Rc4::new(HMAC(S, K)) = Rc4::new(HMAC(R, K))`: an explicit related-key
  collision of KSA∘HMAC under the two fixed constants. (That KSA is injective on 20-byte keys is NOT claimed.)
Inequality of the two keystreams is tested per sampled key by the harness; one concrete key is
evaluated in `Props/C09Directions.lean`.
-/
import WowSrp.Lemmas.Rc4Spec
import WowSrp.Lemmas.Rc4Inv
import WowSrp.Lemmas.Eval
namespace WowSrp

/-- `Rc4::new` never panics — for every key, the empty one included (there the `zip` with the empty
    `cycle()` runs zero iterations and the table stays the identity) — and yields an intact table with
    both counters at 0 -/
theorem C09_new_ok (key : Bytes) : ∃ r, Rc4.new key = .ok r ∧ r.Inv ∧ r.i = 0 ∧ r.j = 0 :=
  ⟨_, Rc4.new_eq key, Rc4.keyed_inv key, rfl, rfl⟩

/-- the empty-key case spelled out -/
theorem C09_new_empty_key : Rc4.new [] = .ok ⟨(Array.range 256).map UInt8.ofNat, 0, 0⟩ := by
  -- unfolded by name down to the table: left to compare `Rc4.keyed []` with it, the kernel builds the 256 entries
  rw [Rc4.new_eq, Rc4.keyed, ksaTable, if_pos rfl, rc4Init]

/-- one `pseudo_random_generation` / one byte of `apply_keystream` under the invariant: none of the
    indexings or the swap is out of bounds, the invariant is re-established -/
theorem C09_step_no_panic (r : Rc4) (hr : r.Inv) (x : UInt8) :
    (∃ r' v, r.prga = .ok (r', v) ∧ r'.Inv) ∧ (∃ r' y, r.step x = .ok (r', y) ∧ r'.Inv) :=
  ⟨⟨_, _, r.prga_pure hr, r.next_inv hr⟩, ⟨_, _, r.step_pure x hr, r.next_inv hr⟩⟩

/-- **no panic**: from every state with an intact table (every `i`, `j`), `apply_keystream` on data
    of every length succeeds, returns as many bytes as given and keeps the table intact -/
theorem C09_no_panic (r : Rc4) (hr : r.Inv) (data : Bytes) :
    ∃ r' out, r.apply data = .ok (r', out) ∧ r'.Inv ∧ out.length = data.length :=
  r.apply_ok data hr

/-- **the keystream does not depend on the data**: let `ks` be what `apply_keystream` returns on
    `n` zero bytes (the next `n` keystream bytes) and `r'` the state it ends in. Then on *any* data of
    length `n` the call returns `data xor ks` and ends in the same `r'`. In particular the state after a
    call depends only on the length of the data. -/
theorem C09_keystream_indep_of_data (r : Rc4) (hr : r.Inv) (n : Nat) :
    ∃ r' ks, r.apply (List.replicate n 0) = .ok (r', ks) ∧ ks.length = n ∧ r'.Inv ∧
      ∀ xs : Bytes, xs.length = n → r.apply xs = .ok (r', xorBytes xs ks) := by
  refine ⟨_, _, r.apply_zeros hr n, Rc4.stream_length n r, Rc4.advance_inv _ _ hr, ?_⟩
  intro xs hx
  rw [r.apply_eq hr xs, hx]

/-- corollary in the form "same length ⇒ same next state" -/
theorem C09_state_depends_on_length_only (r : Rc4) (hr : r.Inv) (xs ys : Bytes) (hl : xs.length = ys.length) :
    ∃ r' ox oy, r.apply xs = .ok (r', ox) ∧ r.apply ys = .ok (r', oy) := by
  refine ⟨Rc4.advance ys.length r, xorBytes xs (Rc4.stream ys.length r), xorBytes ys (Rc4.stream ys.length r),
    ?_, r.apply_eq hr ys⟩
  rw [r.apply_eq hr xs, hl]

/-- **chunking**: any partition of a stream into calls (empty calls included) gives the result of one
    call on the concatenation — any state -/
theorem C09_chunking (r : Rc4) (chunks : List Bytes) :
    runChunks Rc4.apply r chunks = Rc4.apply r chunks.flatten :=
  runChunks_flatten Rc4.step r chunks

/-- **involution**: two RC4s in the same state — if one turns `xs` into `cs` and ends in `r'`, the
    other turns `cs` back into `xs` and ends in `r'` as well (no hypothesis on the state needed) -/
theorem C09_involution (r r' : Rc4) (xs cs : Bytes) (h : r.apply xs = .ok (r', cs)) :
    r.apply cs = .ok (r', xs) := Rc4.apply_involution r r' xs cs h

/-- **direction constants**: S ≠ R, and which of them each of the four halves is keyed with, as
    extracted from the four constructors (swapping the constants on one half only breaks this) -/
theorem C09_directions :
    Gen.wrathS ≠ Gen.wrathR ∧ keyClientEnc = Gen.wrathS ∧ keyServerDec = Gen.wrathS ∧
    keyServerEnc = Gen.wrathR ∧ keyClientDec = Gen.wrathR := by decide

/-- the documented values of the two constants -/
theorem C09_direction_values :
    Gen.wrathS = [0xC2, 0xB3, 0x72, 0x3C, 0xC6, 0xAE, 0xD9, 0xB5, 0x34, 0x3C, 0x53, 0xEE, 0x2F, 0x43, 0x67, 0xCE] ∧
    Gen.wrathR = [0xCC, 0x98, 0xAE, 0x04, 0xE8, 0x97, 0xEA, 0xCA, 0x12, 0xDD, 0xC0, 0x93, 0x42, 0x91, 0x53, 0x57] ∧
    Gen.wrathKeyLength = 16 := by decide

/-- the number of discarded keystream bytes -/
theorem C09_drop : Gen.wrathDrop = 1024 := by decide

/-- **key derivation**: `InnerCrypto::new(K, key)` never panics and is RC4 keyed with
    HMAC-SHA1(key = direction constant, message = session key), counters at 0, then advanced by exactly
    1024 keystream bytes: its state is the state `Rc4::new(hmac)` reaches after `apply_keystream` on
    *any* 1024 bytes. For every `Crypto`, session key and constant. -/
theorem C09_key_derivation (C : Crypto) (K key : Bytes) :
    ∃ r0 r, Rc4.new (C.hmac key K) = .ok r0 ∧ r0.i = 0 ∧ r0.j = 0 ∧ r0.Inv ∧
      InnerCrypto.new C K key = .ok r ∧ r.Inv ∧
      ∀ junk : Bytes, junk.length = 1024 → ∃ out, r0.apply junk = .ok (r, out) := by
  refine ⟨_, _, Rc4.new_eq _, rfl, rfl, Rc4.keyed_inv _, InnerCrypto.new_eq C K key, wrathGen_inv C key K, ?_⟩
  intro junk hl
  have h := Rc4.apply_eq _ (Rc4.keyed_inv (C.hmac key K)) junk
  rw [hl, ← C09_drop, ← wrathGen_def] at h
  exact ⟨_, h⟩

/-- the four halves, by name: each is `InnerCrypto::new` with the constant of its direction -/
theorem C09_halves (C : Crypto) (K : Bytes) :
    WClientEnc.new C K = InnerCrypto.new C K Gen.wrathS ∧
    WServerDec.new C K = InnerCrypto.new C K Gen.wrathS ∧
    (∃ r, InnerCrypto.new C K Gen.wrathR = .ok r ∧
      WServerEnc.new C K = .ok ⟨r, List.replicate 5 0⟩ ∧ WClientDec.new C K = .ok ⟨r, List.replicate 4 0⟩) := by
  simp only [WClientEnc.new_eq, WServerDec.new_eq, InnerCrypto.new_eq]
  exact ⟨trivial, trivial, _, rfl, WServerEnc.new_eq C K, WClientDec.new_eq C K⟩

/-- **round trip client → server, indefinitely**: for every `Crypto` and session key the client's
    encrypter and the server's decrypter are constructed (no panic) in the same RC4 state; for every
    stream of any length (so the 8-bit counter `i` wraps at 256, 65 536, … inside this statement),
    every partition of the plaintext into calls on the client and every independent partition of the
    ciphertext into calls on the server, the server recovers the client's bytes exactly, neither side
    panics, and the two states are equal again afterwards -/
theorem C09_roundtrip_c2s (C : Crypto) (K : Bytes) (sendChunks recvChunks : List Bytes) :
    ∃ e d, WClientEnc.new C K = .ok e ∧ WServerDec.new C K = .ok d ∧ d = e ∧
      ∃ e' cipher, runChunks Rc4.apply e sendChunks = .ok (e', cipher) ∧
        cipher.length = sendChunks.flatten.length ∧
        (recvChunks.flatten = cipher →
          runChunks Rc4.apply d recvChunks = .ok (e', sendChunks.flatten)) :=
  ⟨_, _, WClientEnc.new_eq C K, WServerDec.new_eq C K, rfl, Rc4.flow _ (wrathGen_inv C Gen.wrathS K) _ _⟩

/-- **round trip server → client, indefinitely**: the same for the other direction, through the
    `ServerEncrypterHalf::encrypt` / `ClientDecrypterHalf::decrypt` wrappers (which carry a header
    buffer next to the RC4 state and do not touch it here): equal RC4 states at construction, every
    stream, every pair of partitions, exact recovery, equal RC4 states afterwards -/
theorem C09_roundtrip_s2c (C : Crypto) (K : Bytes) (sendChunks recvChunks : List Bytes) :
    ∃ s c, WServerEnc.new C K = .ok s ∧ WClientDec.new C K = .ok c ∧ c.rc4 = s.rc4 ∧
      ∃ s' cipher, runChunks WServerEnc.encrypt s sendChunks = .ok (s', cipher) ∧
        cipher.length = sendChunks.flatten.length ∧
        (recvChunks.flatten = cipher →
          ∃ c', runChunks WClientDec.decrypt c recvChunks = .ok (c', sendChunks.flatten) ∧
            c'.rc4 = s'.rc4 ∧ c'.header = c.header ∧ s'.serverHeader = s.serverHeader) :=
  ⟨_, _, WServerEnc.new_eq C K, WClientDec.new_eq C K, rfl, WServerEnc.flow _ _ rfl (wrathGen_inv C Gen.wrathR K) _ _⟩

/-- the round trip between any two RC4 states that are equal, with no reference to how they were
    made (this is the induction step "equal before ⇒ recovered and equal after", usable at any point
    of a connection) -/
theorem C09_roundtrip_from_equal_states (e e' : Rc4) (sendChunks recvChunks : List Bytes) (cipher : Bytes)
    (hsend : runChunks Rc4.apply e sendChunks = .ok (e', cipher)) (hpart : recvChunks.flatten = cipher) :
    runChunks Rc4.apply e recvChunks = .ok (e', sendChunks.flatten) :=
  Rc4.roundtrip_chunks e e' _ _ _ hsend hpart

/-- **the PRGA step is a bijection on intact states** (table of 256 entries, every `i`, `j`), so `n`
    keystream bytes on is an injective map, for every `n`; stated on the model's own
    `pseudo_random_generation` / `apply_keystream` (`Lemmas/Rc4Inv.lean`: `Rc4.prev` is the inverse step) -/
theorem C09_prga_bijective :
    (∀ (a b : Rc4), a.Inv → b.Inv → ∀ (s : Rc4) (va vb : UInt8),
      a.prga = .ok (s, va) → b.prga = .ok (s, vb) → a = b) ∧
    (∀ r : Rc4, r.Inv → ∃ (a : Rc4) (v : UInt8), a.Inv ∧ a.prga = .ok (r, v)) ∧
    (∀ (a b : Rc4), a.Inv → b.Inv → ∀ (xs ys : Bytes), xs.length = ys.length →
      ∀ (s : Rc4) (ox oy : Bytes), a.apply xs = .ok (s, ox) → b.apply ys = .ok (s, oy) → a = b) := by
  refine ⟨Rc4.prga_injective, ?_, Rc4.apply_injective_state⟩
  intro r hr
  obtain ⟨a, ha, hn⟩ := Rc4.next_surjective r hr
  exact ⟨a, a.out, ha, by rw [a.prga_pure ha, hn]⟩

/-- **if the two directions ever share a state, the two derived RC4 keys collide.** Let `c2s` / `s2c` be
    the client→server and server→client ciphers built from the same session key `K`
    (`InnerCrypto::new(K, S)` resp. `(K, R)`: what the four halves hold, `C09_halves`). If after the
    same number of bytes — any data, `xs.length = ys.length`, in particular `xs = ys = []`: right after
    the 1024-byte drop — the two are in the same RC4 state `r`, then the two key schedules already
    agreed: `Rc4::new(HMAC(S, K)) = Rc4::new(HMAC(R, K))`. For every `Crypto` and every `K`. -/
theorem C09_shared_state_gives_key_collision (C : Crypto) (K : Bytes) (c2s s2c : Rc4)
    (h₁ : InnerCrypto.new C K Gen.wrathS = .ok c2s) (h₂ : InnerCrypto.new C K Gen.wrathR = .ok s2c)
    (xs ys : Bytes) (hl : xs.length = ys.length) (r : Rc4) (ox oy : Bytes)
    (hx : c2s.apply xs = .ok (r, ox)) (hy : s2c.apply ys = .ok (r, oy)) :
    Rc4.new (C.hmac Gen.wrathS K) = Rc4.new (C.hmac Gen.wrathR K) := by
  rw [InnerCrypto.new_eq] at h₁ h₂
  obtain rfl := Out.ok.inj h₁
  obtain rfl := Out.ok.inj h₂
  have e := Rc4.apply_injective_state _ _ (wrathGen_inv ..) (wrathGen_inv ..) xs ys hl r ox oy hx hy
  rw [wrathGen_def, wrathGen_def] at e
  rw [Rc4.new_eq, Rc4.new_eq, Rc4.advance_injective _ _ _ (Rc4.keyed_inv _) (Rc4.keyed_inv _) e]

/-- the same on the four halves by name: `a` is the client's encrypter or the server's decrypter, `b` the
    RC4 of the server's encrypter or of the client's decrypter -/
theorem C09_shared_state_gives_key_collision_halves (C : Crypto) (K : Bytes)
    (ce sd : Rc4) (se : WServerEnc) (cd : WClientDec)
    (hce : WClientEnc.new C K = .ok ce) (hsd : WServerDec.new C K = .ok sd)
    (hse : WServerEnc.new C K = .ok se) (hcd : WClientDec.new C K = .ok cd)
    (a b : Rc4) (ha : a = ce ∨ a = sd) (hb : b = se.rc4 ∨ b = cd.rc4)
    (xs ys : Bytes) (hl : xs.length = ys.length) (r : Rc4) (ox oy : Bytes)
    (hx : a.apply xs = .ok (r, ox)) (hy : b.apply ys = .ok (r, oy)) :
    Rc4.new (C.hmac Gen.wrathS K) = Rc4.new (C.hmac Gen.wrathR K) := by
  rw [WClientEnc.new_eq] at hce; rw [WServerDec.new_eq] at hsd
  rw [WServerEnc.new_eq] at hse; rw [WClientDec.new_eq] at hcd
  obtain rfl := Out.ok.inj hce
  obtain rfl := Out.ok.inj hsd
  obtain rfl := Out.ok.inj hse
  obtain rfl := Out.ok.inj hcd
  obtain rfl : a = wrathGen C Gen.wrathS K := ha.elim id id
  obtain rfl : b = wrathGen C Gen.wrathR K := hb.elim id id
  exact C09_shared_state_gives_key_collision C K _ _ (InnerCrypto.new_eq ..) (InnerCrypto.new_eq ..) xs ys hl r ox oy hx hy

/-- **contrapositive: no key collision ⇒ the two directions never share a state.** For a session key whose
    two derived RC4 key schedules differ (one evaluation of KSA∘HMAC per direction decides this), both
    ciphers exist, never panic, and after ANY equal number of bytes on either side the two RC4 states
    are different — at the drop boundary and forever after. (Different states may still emit equal
    keystream bytes here and there; that is not excluded and not claimed.) -/
theorem C09_no_key_collision_gives_disjoint_states (C : Crypto) (K : Bytes)
    (hne : Rc4.new (C.hmac Gen.wrathS K) ≠ Rc4.new (C.hmac Gen.wrathR K)) :
    ∃ c2s s2c, InnerCrypto.new C K Gen.wrathS = .ok c2s ∧ InnerCrypto.new C K Gen.wrathR = .ok s2c ∧
      ∀ xs ys : Bytes, xs.length = ys.length →
        ∃ r₁ r₂ o₁ o₂, c2s.apply xs = .ok (r₁, o₁) ∧ s2c.apply ys = .ok (r₂, o₂) ∧ r₁ ≠ r₂ := by
  have newS := InnerCrypto.new_eq C K Gen.wrathS
  have newR := InnerCrypto.new_eq C K Gen.wrathR
  refine ⟨_, _, newS, newR, fun xs ys hl => ?_⟩
  have hx := Rc4.apply_eq _ (wrathGen_inv C Gen.wrathS K) xs
  have hy := Rc4.apply_eq _ (wrathGen_inv C Gen.wrathR K) ys
  refine ⟨_, _, _, _, hx, hy, fun e => hne ?_⟩
  rw [← e] at hy
  exact C09_shared_state_gives_key_collision C K _ _ newS newR xs ys hl _ _ _ hx hy

/-! ### the model's RC4 is the textbook RC4

`Spec/Rc4.lean` is RC4 as RFC 6229 / the textbook describes it: tables of naturals, every index and
sum reduced `mod 256`, the key cycled by `i mod keylength`. `Rc4.abs` reads a model state (array of
`u8`, `u8` counters) as a Spec state (`Lemmas/Rc4Spec.lean`). -/

/-- **refinement**: for every key of 1 ≤ length (≤ 256 is the RC4 key range; the proof does not need
    the upper bound, the key is cycled) `Rc4::new` does not panic and ends in the state the Spec's KSA
    gives; from every state with an intact table one `pseudo_random_generation` is one Spec PRGA step
    with the same output byte (`u8` wrap-around = `mod 256`); hence for every `n` — beyond 256 and
    65 536 too — the model's next `n` keystream bytes (what `apply_keystream` returns on zeros) are the
    Spec's, and the states stay related. -/
theorem C09_rc4_refines :
    (∀ key : Bytes, 1 ≤ key.length →
      ∃ r, Rc4.new key = .ok r ∧ r.Inv ∧ r.abs = Spec.Rc4.init (key.map UInt8.toNat)) ∧
    (∀ r : Rc4, r.Inv →
      ∃ r' v, r.prga = .ok (r', v) ∧ r'.Inv ∧ r.abs.prga = (r'.abs, v.toNat)) ∧
    (∀ (r : Rc4) (n : Nat), r.Inv →
      ∃ r' ks, r.apply (List.replicate n 0) = .ok (r', ks) ∧
        ks.map UInt8.toNat = Spec.Rc4.keystream n r.abs ∧ r'.abs = Spec.Rc4.advance n r.abs) := by
  refine ⟨?_, ?_, ?_⟩
  · intro key hk
    exact ⟨_, Rc4.new_eq key, Rc4.keyed_inv key, Rc4.keyed_abs key (List.ne_nil_of_length_pos hk)⟩
  · intro r hr
    obtain ⟨h1, h2⟩ := r.abs_next
    exact ⟨_, _, r.prga_pure hr, r.next_inv hr, by rw [h1, h2]⟩
  · intro r n hr
    exact ⟨_, _, r.apply_zeros hr n, Rc4.abs_stream n r, Rc4.abs_advance n r⟩

/-- put together for a whole keyed stream: for every non-empty key and every data, `Rc4::new(key)`
    followed by `apply_keystream(data)` is `data xor` the Spec keystream of that key (as numbers) -/
theorem C09_rc4_refines_stream (key data : Bytes) (hk : 1 ≤ key.length) :
    ∃ r r' out, Rc4.new key = .ok r ∧ r.apply data = .ok (r', out) ∧ out.length = data.length ∧
      out.map UInt8.toNat = List.zipWith (· ^^^ ·) (data.map UInt8.toNat)
        (Spec.Rc4.keystream data.length (Spec.Rc4.init (key.map UInt8.toNat))) := by
  refine ⟨_, _, _, Rc4.new_eq key, Rc4.apply_eq _ (Rc4.keyed_inv key) data,
    xorBytes_length _ _ (Rc4.stream_length ..).symm, ?_⟩
  rw [← Rc4.keyed_abs key (List.ne_nil_of_length_pos hk), ← Rc4.abs_stream]
  simp [xorBytes, List.map_zipWith, List.zipWith_map, UInt8.toNat_xor]

/-- the Wrath halves in Spec terms: for every `Crypto` whose HMAC output is non-empty (`C.WF`: 20
    bytes) the state `InnerCrypto::new(K, key)` starts from is the Spec's RC4 keyed with
    HMAC(key, K) advanced by 1024 bytes (RC4-drop1024) -/
theorem C09_inner_refines (C : Crypto) (hC : C.WF) (K key : Bytes) :
    ∃ r, InnerCrypto.new C K key = .ok r ∧ r.Inv ∧
      r.abs = Spec.Rc4.advance 1024 (Spec.Rc4.init ((C.hmac key K).map UInt8.toNat)) ∧
      ∀ n, ∃ r' ks, r.apply (List.replicate n 0) = .ok (r', ks) ∧
        ks.map UInt8.toNat = Spec.rc4DropKeystream ((C.hmac key K).map UInt8.toNat) 1024 n :=
  ⟨_, InnerCrypto.new_eq C K key, wrathGen_inv C key K, wrathGen_abs C hC key K, fun n =>
    ⟨_, _, Rc4.apply_zeros _ (wrathGen_inv C key K) n, by rw [Rc4.abs_stream, wrathGen_abs C hC]; rfl⟩⟩

/-! ### tests (labelled as such): RFC 6229 vectors, evaluated by the kernel on the *Spec*; by
    `C09_rc4_refines` they are facts about the model too. Key 0x0102030405, offsets 0 and 16, and the
    32-byte key 0x01..0x20, offsets 0 and 16 — the two vectors of the crate's own unit test.
    More vectors (56- and 128-bit keys, offsets 240/256) in `Props/C09Vectors.lean`. -/
example : Spec.Rc4.keystream 32 (Spec.Rc4.init [1, 2, 3, 4, 5]) =
    [0xb2, 0x39, 0x63, 0x05, 0xf0, 0x3d, 0xc0, 0x27, 0xcc, 0xc3, 0x52, 0x4a, 0x0a, 0x11, 0x18, 0xa8,
     0x69, 0x82, 0x94, 0x4f, 0x18, 0xfc, 0x82, 0xd5, 0x89, 0xc4, 0x03, 0xa4, 0x7a, 0x0d, 0x09, 0x19] := by
  rw [Spec.Packed.Rc4.init_eq, Spec.Packed.Rc4.keystream_eq]
  decide +kernel
example : Spec.Rc4.keystream 32 (Spec.Rc4.init ((List.range 32).map (· + 1))) =
    [0xea, 0xa6, 0xbd, 0x25, 0x88, 0x0b, 0xf9, 0x3d, 0x3f, 0x5d, 0x1e, 0x4c, 0xa2, 0x61, 0x1d, 0x91,
     0xcf, 0xa4, 0x5c, 0x9f, 0x7e, 0x71, 0x4b, 0x54, 0xbd, 0xfa, 0x80, 0x02, 0x7c, 0xb1, 0x43, 0x80] := by
  rw [Spec.Packed.Rc4.init_eq, Spec.Packed.Rc4.keystream_eq]
  decide +kernel

/-! non-vacuity: an intact state exists for every key (`C09_new_ok`), the constructors succeed for
    every `Crypto` and session key (`C09_roundtrip_c2s/s2c` produce the halves themselves rather than
    assuming them), and `Crypto.real` satisfies `C.WF` (`Crypto.real_WF`, Lemmas/RealWF.lean). -/

end WowSrp

#print axioms WowSrp.C09_prga_bijective
#print axioms WowSrp.C09_shared_state_gives_key_collision
#print axioms WowSrp.C09_shared_state_gives_key_collision_halves
#print axioms WowSrp.C09_no_key_collision_gives_disjoint_states
