/-
`MatrixCard::get_number_at_coordinates` and `MatrixCard::get_matrix_card_size` (src/matrix_card.rs), translated from the working tree
by tools/gen_imp.py (Gen/CodeImp.lean), denote the model's `MatrixCard.getNumberAt` and the size `d * h * w` that `MatrixCard.fromData`
compares with — for every cell, geometry and card contents.  The C18 cell theorems (`C18_cell`: cell (x, y) is printed cell y*w + x) are
about `getNumberAt`; through these equalities they are about the index arithmetic as written now.
-/
import WowSrp.Gen.CodeImp
import WowSrp.Model.MatrixCard
namespace WowSrp
open MiniImp

private theorem mul_le_of_lt_256 {a b : Nat} (ha : a < 256) (hb : b < 256) : a * b ≤ 255 * 255 :=
  Nat.mul_le_mul (by omega) (by omega)

/-- scalar slots: x, y, then the integer fields of the struct, bound by name (`digit_count`, `width`, `height`; see `C18_translated_signatures`);
    array slot 0: `data`.  `hh` is not used: the height does not enter the offset; the hypothesis is the Rust type of the field -/
theorem C18_translated_get_number_at (x y d w h : Nat) (data : Bytes)
    (hx : x < 256) (hy : y < 256) (hd : d < 256) (hw : w < 256) (hh : h < 256) :
    forget (Gen.CodeImp.getNumberAtCoordinates.run [x, y, d, w, h] [data]) =
      forget (MatrixCard.getNumberAt ⟨d, w, h, data⟩ x y) := by
  have h1 : y * w ≤ 255 * 255 := mul_le_of_lt_256 hy hw
  have h2 : (y * w + x) * d ≤ (255 * 255 + 255) * 255 := Nat.mul_le_mul (by omega) (by omega)
  have a1 : y * w < 2 ^ 64 := by omega
  have a2 : y * w + x < 2 ^ 64 := by omega
  have a3 : (y * w + x) * d < 2 ^ 64 := by omega
  have a4 : (y * w + x) * d + d < 2 ^ 64 := by omega
  unfold Gen.CodeImp.getNumberAtCoordinates
  simp only [Fn.run, Stmt.exec, Expr.eval, Env.getVar, Env.setVar, Env.getArr, Result.get, MatrixCard.getNumberAt,
    List.getElem?_cons_zero, List.getElem?_cons_succ, List.length_cons, List.length_nil, bind, Out.bind, a1, a2, a3, if_true]
  by_cases hle : (y * w + x) * d + d ≤ data.length <;> simp [forget, hle, a4]

theorem C18_translated_card_size (d h w : Nat) (hd : d < 256) (hh : h < 256) (hw : w < 256) :
    forget (Gen.CodeImp.getMatrixCardSize.run [d, h, w] []) = some (d * h * w) := by
  have h1 : d * h ≤ 255 * 255 := mul_le_of_lt_256 hd hh
  have h2 : d * h * w ≤ 255 * 255 * 255 := Nat.mul_le_mul h1 (by omega)
  have a1 : d * h < 2 ^ 64 := by omega
  have a2 : d * h * w < 2 ^ 64 := by omega
  unfold Gen.CodeImp.getMatrixCardSize
  simp [FnNat.run, Stmt.exec, Expr.eval, Env.getVar, Env.setVar, bind, Out.bind, a1, a2, forget]

/-- both sides run on a concrete card: 2 digits per cell, 3 wide, 2 high, cell (1, 1) -/
example : forget (Gen.CodeImp.getNumberAtCoordinates.run [1, 1, 2, 3, 2] [[0,1, 0,2, 0,3, 0,4, 0,5, 0,6]]) = some [0, 5] ∧
    forget (MatrixCard.getNumberAt ⟨2, 3, 2, [0,1, 0,2, 0,3, 0,4, 0,5, 0,6]⟩ 1 1) = some [0, 5] := by decide +kernel
/-- a cell past the end of the data: both sides panic -/
example : forget (Gen.CodeImp.getNumberAtCoordinates.run [2, 2, 2, 3, 2] [[0,1, 0,2, 0,3, 0,4, 0,5, 0,6]]) = none ∧
    forget (MatrixCard.getNumberAt ⟨2, 3, 2, [0,1, 0,2, 0,3, 0,4, 0,5, 0,6]⟩ 2 2) = none := by decide +kernel
example : forget (Gen.CodeImp.getMatrixCardSize.run [2, 8, 10] []) = some 160 := by decide +kernel

#print axioms C18_translated_get_number_at
#print axioms C18_translated_card_size

/-- the parameter, return and field types are the ones the hypotheses of the C18 translation theorems spell out (u8 geometry, u64 seed);
    the field SLOTS are fixed by name in the translator (`digit_count`, `width`, `height`, `data`), whatever the declaration order -/
theorem C18_translated_signatures :
    Gen.CodeImp.signaturesCard = ["generate_coordinates: (u8, u8, u8, u64) -> Vec<u8>", "get_number_at_coordinates: (&self, u8, u8) -> &[u8]",
      "get_matrix_card_size: (u8, u8, u8) -> usize", "MatrixCard: digit_count:u8, width:u8, height:u8, data:arr"] := rfl

#print axioms C18_translated_signatures

end WowSrp
