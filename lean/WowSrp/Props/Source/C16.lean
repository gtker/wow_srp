/-
Translator leg for C16: facts extracted from the Rust source by tools/gen_constants.py on every run: the field order
fed to the hash objects of the PIN hash, and that pin.rs keeps no state between calls. A change in the Rust that
alters one of them breaks exactly these obligations, independently of the correspondence run.
-/
import WowSrp.Gen.Constants
import WowSrp.Gen.Facts
namespace WowSrp

/-- C16: hash = H(client salt | H(server salt | remapped digits)) -/
theorem C16_source_layout : Gen.layoutPinHash = [["server_salt", "bytes"], ["client_salt", "sha1"], ["ctors:Sha1::new,Sha1::new", "methods:chain_update,chain_update,chain_update,chain_update,finalize_fixed,finalize_fixed", "control:for,for,if,return", "rebound:", "tail:Some(Sha1::new().chain_update(client_salt).chain_update(sha1).finalize_fixed().into(),)"]] := rfl

/-- C16: pin.rs keeps no state between calls (the hash is a function of its arguments alone) -/
theorem C16_source_no_hidden_state : Gen.pinModuleHasNoSharedState = true := rfl

end WowSrp
