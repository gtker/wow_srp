/-
Translator leg for C13 ("all constructors and conversions agree"): the model has one function, `NStr.new`; `from_str`, `from_string`, both `TryFrom`
impls are modelled as that same function and `Display` as `as_ref`. The bodies are listed from the source on every run.
-/
import WowSrp.Gen.Facts
namespace WowSrp

/-- every other constructor is `Self::new(..)` on its argument, `Display` writes `as_ref()` -/
theorem C13_source_constructors_delegate : Gen.nstrConstructorBodies = [["from_str: {Self::new(s)}", "from_string: {Self::new(s.into())}", "TryFrom<&str>::try_from: {Self::new(s)}", "TryFrom<String>::try_from: {Self::new(s)}", "Display::fmt: {f.write_str(self.as_ref())}"]] := rfl

end WowSrp
