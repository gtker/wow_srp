/-
Translator leg for C03: facts extracted from the Rust source by tools/gen_constants.py on every run: the field order
fed to the hash objects of x, u, M2 and the xor hash. A change in the Rust that alters one of them breaks exactly
these obligations, independently of the correspondence run.
-/
import WowSrp.Gen.Facts
namespace WowSrp

/-- C03: x = H(salt | H(U ":" P)) -/
theorem C03_source_layout_x : Gen.layoutCalculateX =
    [["username.as_ref()", "\":\"", "password.as_ref()"], ["salt.as_le_bytes()", "p"], ["ctors:Sha1::new,Sha1::new", "methods:chain_update,chain_update,chain_update,chain_update,chain_update,finalize,finalize", "control:", "rebound:", "tail:Sha1Hash::from_le_bytes(x.into())"]] := rfl

/-- C03: u = H(A | B) -/
theorem C03_source_layout_u : Gen.layoutCalculateU =
    [["client_public_key.as_le_bytes()", "server_public_key.as_le_bytes()"], ["ctors:Sha1::new", "methods:chain_update,chain_update,finalize", "control:", "rebound:", "tail:Sha1Hash::from_le_bytes(s.into())"]] := rfl

/-- C03: M2 = H(A | M1 | K) -/
theorem C03_source_layout_M2 : Gen.layoutServerProof =
    [["client_public_key.as_le_bytes()", "client_proof.as_le_bytes()", "session_key.as_le_bytes()"], ["ctors:Sha1::new", "methods:chain_update,chain_update,chain_update,finalize", "control:", "rebound:", "tail:Proof::from_le_bytes(s.into())"]] := rfl

/-- C03: xor hash = H(N) xor H(g) -/
theorem C03_source_layout_xor : Gen.layoutXorHash =
    [["large_safe_prime.as_le_bytes()"], ["[generator.as_u8()]"], ["ctors:Sha1::new,Sha1::new", "methods:chain_update,chain_update,finalize,finalize", "control:for", "rebound:", "tail:}Sha1Hash::from_le_bytes(xor_hash)"]] := rfl

end WowSrp
