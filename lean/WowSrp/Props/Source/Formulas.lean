/-
Translator leg for C03 (and C01: `C01_translated_formulas`): the five big-integer formulas of the exchange are translated from the working tree on every
run (tools/gen_code.py → Gen/Code.lean, meaning in Model/MiniBig.lean).  Each model function IS its translated formula followed by
the conversion the source applies to the result — for every input, both back ends, including the panic cases (zero modulus).
`C03_verifier`, `C03_server_public_key`, `C03_server_S`, `C03_client_public_key`, `C03_client_S` (Model = Spec) are about these
model functions; through the equalities below they are about the formulas as written in the source now.
-/
import WowSrp.Gen.Code
import WowSrp.Model.Srp
import WowSrp.Lemmas.Out
namespace WowSrp
open MiniBig

/-- the built-in constants the formulas name (`KValue::bigint()`, `Generator::default()`, `LargeSafePrime::default()`) -/
def srpConsts : Consts := ⟨kBig, gBig, nBig⟩
/-- a name that is not in the list reads as 0: a formula that mentions another name then means another function, and the equalities below fail -/
def envOf (l : List (String × Nat)) : String → Nat := fun s => (l.lookup s).getD 0

theorem C03_translated_verifier (C : Crypto) (be : Backend) (U P salt : Bytes) :
    calculatePasswordVerifier C be U P salt =
      (Gen.Code.passwordVerifierFormula.eval srpConsts be (envOf [("x", ofLE (calculateX C U P salt))]) >>= fun v => toPadded32 be v.toNat) ∧
    Gen.Code.passwordVerifierFormulaWrap = "to_padded_32_byte_array_le" := by
  refine ⟨?_, rfl⟩
  simp [calculatePasswordVerifier, Gen.Code.passwordVerifierFormula, BigExpr.eval, srpConsts, envOf, List.lookup, Out.bind_assoc]

theorem C03_translated_server_public_key (be : Backend) (v b : Bytes) :
    calculateServerPublicKey be v b =
      (Gen.Code.serverPublicKeyFormula.eval srpConsts be (envOf [("password_verifier", ofLE v), ("server_private_key", ofLE b)])
        >>= fun B => PublicKey.tryFromBigint be B.toNat) ∧
    Gen.Code.serverPublicKeyFormulaWrap = "PublicKey::try_from_bigint" := by
  refine ⟨?_, rfl⟩
  simp [calculateServerPublicKey, Gen.Code.serverPublicKeyFormula, BigExpr.eval, srpConsts, envOf, List.lookup, Out.bind_assoc, remOut,
    ← Int.natCast_add, ← Int.natCast_mul]
  refine congrArg _ (funext fun t => ?_)
  -- `← Int.natCast_add`, `← Int.natCast_mul` rewrite nothing here: they take the cast-pushing direction out of the simp set
  split <;> simp [← Int.natCast_add, ← Int.natCast_mul, ← Int.natCast_emod]

theorem C03_translated_server_S (be : Backend) (A v u b : Bytes) :
    calculateS be A v u b =
      (Gen.Code.serverSFormula.eval srpConsts be
          (envOf [("client_public_key", ofLE A), ("password_verifier", ofLE v), ("u", ofLE u), ("server_private_key", ofLE b)])
        >>= fun s => padCopy 32 (be.toBytesLe s.toNat) "key.rs:88 slice end out of range") ∧
    Gen.Code.serverSFormulaWrap = "into" := by
  refine ⟨?_, rfl⟩
  simp [calculateS, Gen.Code.serverSFormula, BigExpr.eval, srpConsts, envOf, List.lookup, Out.bind_assoc]

theorem C03_translated_client_public_key (be : Backend) (a : Bytes) (g : Nat) (nLE : Bytes) :
    calculateClientPublicKey be a g nLE =
      (Gen.Code.clientPublicKeyFormula.eval srpConsts be
          (envOf [("generator", g), ("client_private_key", ofLE a), ("large_safe_prime", ofLE nLE)])
        >>= fun A => PublicKey.clientTryFromBigint be A.toNat (ofLE nLE)) ∧
    Gen.Code.clientPublicKeyFormulaWrap = "PublicKey::client_try_from_bigint" := by
  refine ⟨?_, rfl⟩
  simp [calculateClientPublicKey, Gen.Code.clientPublicKeyFormula, BigExpr.eval, srpConsts, envOf, List.lookup, Out.bind_assoc]

theorem C03_translated_client_S (be : Backend) (B x a u : Bytes) (g : Nat) (nLE : Bytes) :
    calculateClientS be B x a u g nLE =
      (Gen.Code.clientSFormula.eval srpConsts be
          (envOf [("server_public_key", ofLE B), ("x", ofLE x), ("client_private_key", ofLE a), ("u", ofLE u),
                  ("generator", g), ("large_safe_prime", ofLE nLE)])
        >>= fun s => toPadded32 be s.toNat) ∧
    Gen.Code.clientSFormulaWrap = "SKey::from_le_bytes(to_padded_32_byte_array_le)" := by
  refine ⟨?_, rfl⟩
  simp [calculateClientS, Gen.Code.clientSFormula, BigExpr.eval, srpConsts, envOf, List.lookup, Out.bind_assoc,
    ← Int.natCast_add, ← Int.natCast_mul]

/-- the same obligations under the names of the other properties that rest on the formulas -/
theorem C01_translated_formulas (be : Backend) (A v u b B x a : Bytes) (g : Nat) (nLE : Bytes) :
    calculateS be A v u b =
      (Gen.Code.serverSFormula.eval srpConsts be
          (envOf [("client_public_key", ofLE A), ("password_verifier", ofLE v), ("u", ofLE u), ("server_private_key", ofLE b)])
        >>= fun s => padCopy 32 (be.toBytesLe s.toNat) "key.rs:88 slice end out of range") ∧
    calculateClientS be B x a u g nLE =
      (Gen.Code.clientSFormula.eval srpConsts be
          (envOf [("server_public_key", ofLE B), ("x", ofLE x), ("client_private_key", ofLE a), ("u", ofLE u),
                  ("generator", g), ("large_safe_prime", ofLE nLE)])
        >>= fun s => toPadded32 be s.toNat) :=
  ⟨(C03_translated_server_S be A v u b).1, (C03_translated_client_S be B x a u g nLE).1⟩

end WowSrp
