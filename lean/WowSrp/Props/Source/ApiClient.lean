/-
`SrpClientChallenge::new` and `verify_server_proof` (client.rs), translated from the working tree by tools/gen_api.py, denote the model's functions
for every argument and draw.
-/
import WowSrp.Props.Source.ApiBase
import WowSrp.Lemmas.MiniApi
namespace WowSrp
open MiniApi

/-- the same function as `outcomeOf` (ApiBase.lean) -/
def outcome {α : Type} : Out α → Option α
  | .ok a => some a
  | .panic _ => none

def selfChallenge (c : SrpClientChallenge) : Fields :=
  [("username", .nstr c.username), ("client_proof", .bytes c.clientProof), ("client_public_key", .bytes c.clientPublicKey),
   ("session_key", .bytes c.sessionKey)]
def valChallenge (c : SrpClientChallenge) : AVal := .struct "SrpClientChallenge"
  [("client_proof", .bytes c.clientProof), ("client_public_key", .bytes c.clientPublicKey), ("session_key", .bytes c.sessionKey),
   ("username", .nstr c.username)]
/-- (`selfClient`, the same object as `self`, is in ApiReconnect.lean) -/
def valClient (c : SrpClient) : AVal := .struct "SrpClient" [("session_key", .bytes c.sessionKey), ("username", .nstr c.username)]

theorem verifyServerProof_run (P : Prims) (C : Crypto) (c : SrpClientChallenge) (M2 : Bytes)
    (hM : P.call "calculate_server_proof" [.bytes c.clientPublicKey, .bytes c.clientProof, .bytes c.sessionKey]
      = some (.ok (.bytes (calculateServerProof C c.clientPublicKey c.clientProof c.sessionKey)))) :
    Gen.CodeApi.verifyServerProof.run P (selfChallenge c) [.bytes M2] []
      = some (.ok (match c.verifyServerProof C M2 with
          | .error e => (.err (valMatchErr e), selfChallenge c, [])
          | .ok cl => (.ok (valClient cl), selfChallenge c, []))) := by
  simp [Gen.CodeApi.verifyServerProof, hM, selfChallenge]
  simp only [SrpClientChallenge.verifyServerProof]
  split <;> simp [*, valClient, valMatchErr]

/-- `SrpClientChallenge::verify_server_proof(self, server_proof)` -/
theorem C02_translated_verify_server_proof (C : Crypto) (be : Backend) (c : SrpClientChallenge) (M2 : Bytes) :
    Gen.CodeApi.verifyServerProof.run (srpPrims C be) (selfChallenge c) [.bytes M2] []
      = some (.ok (match c.verifyServerProof C M2 with
          | .error e => (.err (valMatchErr e), selfChallenge c, [])
          | .ok cl => (.ok (valClient cl), selfChallenge c, []))) := by
  apply verifyServerProof_run; simp [Prims.call, srpPrims]

theorem clientNew_run (P : Prims) (C : Crypto) (be : Backend) (u p : NStr) (g : Nat) (nLE B salt a : Bytes) (rest : List Bytes)
    (hA : P.call "calculate_client_public_key" [.bytes a, .num g, .bytes nLE] = some (outKey (calculateClientPublicKey be a g nLE)))
    (hx : P.call "calculate_x" [.nstr u, .nstr p, .bytes salt] = some (.ok (.bytes (calculateX C u.asRef p.asRef salt))))
    (hu : ∀ A, P.call "calculate_u" [.bytes A, .bytes B] = some (.ok (.bytes (calculateU C A B))))
    (hS : ∀ x u, P.call "calculate_client_S" [.bytes B, .bytes x, .bytes a, .bytes u, .num g, .bytes nLE]
      = some (outBytes (calculateClientS be B x a u g nLE)))
    (hK : ∀ S, P.call "calculate_interleaved" [.bytes S] = some (outBytes (calculateInterleaved C S)))
    (hM : ∀ K A, P.call "calculate_client_proof_with_custom_value"
        [.nstr u, .bytes K, .bytes A, .bytes B, .bytes salt, .bytes nLE, .num g]
      = some (.ok (.bytes (calculateClientProofCustom C u.asRef K A B salt nLE g)))) :
    (Gen.CodeApi.clientNew.run P [] [.nstr u, .nstr p, .num g, .bytes nLE, .bytes B, .bytes salt] (a :: rest)).map outcome
      = some (outcome ((SrpClientChallenge.new C be u p g nLE B salt a).bind (fun c => .ok (valChallenge c, [], rest)))) := by
  simp only [SrpClientChallenge.new]
  generalize calculateClientPublicKey be a g nLE = r at hA ⊢
  rcases r with (e | A) | m <;>
    simp [Gen.CodeApi.clientNew, hA, hx, hu, hS, hK, hM, outBytes, outKey, outcome,
      valChallenge]

/-- `SrpClientChallenge::new(username, password, generator, large_safe_prime, server_public_key, salt)`: the private key is the one draw;
    same value, or both panic (the `expect` on an invalid public key, a panic inside the big-integer code) -/
theorem C03_translated_client_new (C : Crypto) (be : Backend) (u p : NStr) (g : Nat) (nLE B salt a : Bytes) (rest : List Bytes) :
    (Gen.CodeApi.clientNew.run (srpPrims C be) [] [.nstr u, .nstr p, .num g, .bytes nLE, .bytes B, .bytes salt] (a :: rest)).map outcome
      = some (outcome ((SrpClientChallenge.new C be u p g nLE B salt a).bind (fun c => .ok (valChallenge c, [], rest)))) := by
  apply clientNew_run <;> intros <;> simp [Prims.call, srpPrims]

/-- `generator` is a `u8`: the hypothesis `g < 256` of `C03_linked_client_new` -/
theorem C03_translated_client_signatures :
    Gen.CodeApi.verifyServerProofSig = "self,server_proof:[u8;PROOF_LENGTH as usize],->Result<SrpClient,MatchProofsError>" ∧
    Gen.CodeApi.clientNewSig = "username:NormalizedString,password:NormalizedString,generator:u8,large_safe_prime:[u8;LARGE_SAFE_PRIME_LENGTH as usize],server_public_key:PublicKey,salt:[u8;SALT_LENGTH as usize],->SrpClientChallenge" := ⟨rfl, rfl⟩

#print axioms C02_translated_verify_server_proof
#print axioms C03_translated_client_new
#print axioms C03_translated_client_signatures
end WowSrp
