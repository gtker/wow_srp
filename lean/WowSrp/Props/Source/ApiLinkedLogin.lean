/-
`SrpProof::into_server` with `calculate_session_key`, `calculate_u`, `calculate_client_proof`, `calculate_server_proof` meaning their TRANSLATED
terms (see Props/Source/ApiLinkBase.lean for what linking means): still the model's function.
-/
import WowSrp.Props.Source.ApiLinkBase
import WowSrp.Props.Source.HashesSrp
import WowSrp.Props.Source.ApiSetup
import WowSrp.Props.Source.ApiIntoServer
namespace WowSrp
open MiniApi

theorem noHashCallees_eq : noHashCallees = noCallees := rfl

/-- `calculate_session_key` as translated, its callee `calculate_u` as translated -/
def sessionKeyPrims (C : Crypto) (be : Backend) : Prims := fun n =>
  if n = "calculate_u" then some (hashCallee Gen.CodeHash.calculateU C) else srpPrims C be n

/-- `apiCallee Gen.CodeApi.calculateSessionKey (sessionKeyPrims C be)` written out: `apiCallee` is in ApiLinkedCtors.lean, and the two files do
    not import each other (a change of the source that breaks one leaves the other's theorems standing) -/
def sessionKeyCallee (C : Crypto) (be : Backend) : List AVal → Out AVal := fun vs =>
  match Gen.CodeApi.calculateSessionKey.run (sessionKeyPrims C be) [] vs [] with
  | some r => r.bind (fun x => .ok x.1)
  | none => .panic "the translated callee has no meaning on these arguments"

/-- every hash callee of the decision functions is the translated term -/
def linkedPrims (C : Crypto) (be : Backend) : Prims := fun n =>
  if n = "calculate_session_key" then some (sessionKeyCallee C be)
  else if n = "calculate_client_proof" then some (hashCallee Gen.CodeHash.clientProof C)
  else if n = "calculate_server_proof" then some (hashCallee Gen.CodeHash.serverProof C)
  else srpPrims C be n

theorem sessionKeyCallee_eq (C : Crypto) (be : Backend) (A B v b : Bytes) :
    sessionKeyCallee C be [.bytes A, .bytes B, .bytes v, .bytes b] = outBytes (calculateSessionKey C be A B v b) := by
  rw [sessionKeyCallee, calculateSessionKey_run (sessionKeyPrims C be) C be A B v b]
  · cases calculateSessionKey C be A B v b <;> rfl
  all_goals intros; simp [Prims.call, sessionKeyPrims, srpPrims, hashCallee, toHashVals, toHashVal, noHashCallees_eq, C03_translated_calculate_u]

theorem C02_linked_into_server (C : Crypto) (be : Backend) (p : SrpProof) (A M1 ch : Bytes) (rest : List Bytes) :
    Gen.CodeApi.intoServer.run (linkedPrims C be) (selfProof p) [.bytes A, .bytes M1] (ch :: rest)
      = some ((p.intoServer C be A M1 ch).bind (fun r => match r with
          | .error e => .ok (.err (valMatchErr e), selfProof p, ch :: rest)
          | .ok (s, M2) => .ok (.ok (.tup (valServer s) (.bytes M2)), selfProof p, rest))) := by
  apply intoServer_run <;> intros <;>
    simp [Prims.call, linkedPrims, sessionKeyCallee_eq, hashCallee, toHashVals, toHashVal, noHashCallees_eq, C03_translated_client_proof,
      C03_translated_server_proof]

#print axioms C02_linked_into_server
end WowSrp
