/-
Translator leg for C02: facts extracted from the Rust source by tools/gen_constants.py on every run: that keys and
proofs are compared by the derived whole-array equality, and the field order fed to the hash objects of M1, server and
client side. A change in the Rust that alters one of them breaks exactly these obligations, independently of the
correspondence run.
-/
import WowSrp.Gen.Constants
import WowSrp.Gen.Facts
namespace WowSrp

/-- C02: proofs and keys are compared by the derived whole-array equality (the Model compares whole lists) -/
theorem C02_source_whole_array_equality : Gen.keyWrapperDerivesEq = true := rfl

/-- C02/C03: M1 = H(xor | H(U) | salt | A | B | K), server side (precomputed xor) and client side -/
theorem C02_source_layout_M1 :
    Gen.layoutClientProof = [["username.as_ref()"], ["PRECALCULATED_XOR_HASH", "username_hash", "salt.as_le_bytes()", "client_public_key.as_le_bytes()", "server_public_key.as_le_bytes()", "session_key.as_le_bytes()"], ["ctors:Sha1::new,Sha1::new", "methods:chain_update,chain_update,chain_update,chain_update,chain_update,chain_update,chain_update,finalize,finalize", "control:", "rebound:", "tail:Proof::from_le_bytes(out)"]] ∧
    Gen.layoutClientProofCustom = [["username.as_ref()"], ["xor_hash.as_le_bytes()", "username_hash", "salt.as_le_bytes()", "client_public_key.as_le_bytes()", "server_public_key.as_le_bytes()", "session_key.as_le_bytes()"], ["ctors:Sha1::new,Sha1::new", "methods:chain_update,chain_update,chain_update,chain_update,chain_update,chain_update,chain_update,finalize,finalize", "control:", "rebound:", "tail:Proof::from_le_bytes(out)"]] := ⟨rfl, rfl⟩

end WowSrp
