/-
The inner function of `NormalizedString::new` (src/normalized_string.rs), translated from the working tree by tools/gen_str.py
(Gen/CodeStr.lean), denotes the model's `NStr.new` for EVERY string: same accepted value, same error kind with the same character, or both
panic.  All C13 theorems (`C13_accept_iff`, `C13_value`, `C13_errors_length`, `C13_errors_first` ...) are about `NStr.new`; through this
equality they are about the decision as written now.
-/
import WowSrp.Gen.CodeStr
namespace WowSrp
open MiniStr

/-- the outcome with the text of a panic message forgotten -/
def NSOut.forget {α} : NSOut α → Option (NSErr ⊕ α)
  | .ok a => some (.inr a)
  | .err e => some (.inl e)
  | .panic _ => none

private theorem fill_forget_eq (p : NewProg) (hp : ∀ c, p.notAllowed.eval c = (!isAscii c || isAsciiControl c))
    (hs : ∀ c, p.store.eval c = upperByte c) (cs : List Char) (i : Nat) (arr : Bytes) :
    (MiniStr.fill p cs i arr).forget = (NStr.fill cs i arr).forget := by
  induction cs generalizing i arr with
  | nil => simp [MiniStr.fill, NStr.fill]
  | cons c cs ih =>
    simp only [MiniStr.fill, NStr.fill, hp, hs]
    split
    · rfl
    · split
      · exact ih _ _
      · rfl

/-- ANY translated program whose five parts mean what the model's parts mean denotes `NStr.new` (so the obligation below is about the
    meaning of the parts, not about their text: `s.is_empty() || s.len() > 16`, `>= 17`, a named constant, `!(c.is_ascii() &&
    !c.is_ascii_control())` are proved the same way) -/
theorem run_eq_new_of (p : NewProg) (h0 : p.unsupported = none)
    (h1 : ∀ cs, p.tooLong.eval cs = (decide (utf8Len cs > 16) || cs.isEmpty))
    (h2 : p.arrayLen = 16)
    (h3 : ∀ c, p.notAllowed.eval c = (!isAscii c || isAsciiControl c))
    (h4 : ∀ c, p.store.eval c = upperByte c)
    (h5 : ∀ cs, utf8Len cs ≤ 16 → p.length.eval cs % 256 = utf8Len cs) (cs : List Char) :
    (p.run cs).forget = (NStr.new cs).forget := by
  have hmax : maxLen = 16 := by decide +kernel
  simp only [NewProg.run, NStr.new, h0, h1, h2, hmax]
  by_cases h : (decide (utf8Len cs > 16) || cs.isEmpty) = true
  · simp [h, NSOut.forget]
  · have hlen : utf8Len cs ≤ 16 := by
      simp at h; omega
    simp only [h]
    have hf := fill_forget_eq p h3 h4 cs 0 (List.replicate 16 0)
    revert hf
    generalize MiniStr.fill p cs 0 (List.replicate 16 0) = a
    generalize NStr.fill cs 0 (List.replicate 16 0) = b
    intro hf
    have hm := h5 cs hlen
    cases a <;> cases b <;> simp [NSOut.forget] at hf <;> simp [NSOut.forget, hm, hf]

private theorem beq127 (n : Nat) : (n == 127) = decide (n = 127) := by
  by_cases h : n = 127 <;> simp [h]

theorem C13_translated_new (cs : List Char) :
    (Gen.CodeStr.nstrNew.run cs).forget = (NStr.new cs).forget := by
  apply run_eq_new_of
  · rfl
  · intro cs
    simp only [Gen.CodeStr.nstrNew, SCond.eval, SNum.eval]
    by_cases h1 : utf8Len cs > 16 <;> by_cases h2 : cs.isEmpty = true <;> simp [h1, h2] <;> omega
  · rfl
  · intro c; simp [Gen.CodeStr.nstrNew, CPred.eval, isAscii, isAsciiControl, beq127]
  · intro c; rfl
  · intro cs h; simp only [Gen.CodeStr.nstrNew, SNum.eval]; exact Nat.mod_eq_of_lt (by omega)

/-- both sides run on concrete strings: accepted and upper-cased, refused for a control character, refused for length -/
example : (Gen.CodeStr.nstrNew.run "aZ~ 9".toList).forget = (NStr.new "aZ~ 9".toList).forget ∧
    (NStr.new "aZ~ 9".toList).forget = some (.inr ⟨[0x41, 0x5A, 0x7E, 0x20, 0x39, 0,0,0,0,0,0,0,0,0,0,0], 5⟩) := by decide +kernel
example : (Gen.CodeStr.nstrNew.run ['a', '\t']).forget = some (.inl (.notAllowed '\t')) := by decide +kernel
example : (Gen.CodeStr.nstrNew.run ("12345678901234567".toList)).forget = some (.inl .tooLong) ∧
    (Gen.CodeStr.nstrNew.run []).forget = some (.inl .tooLong) := by decide +kernel

#print axioms C13_translated_new

end WowSrp
