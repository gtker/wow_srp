/-
Translator leg for C06: facts extracted from the Rust source by tools/gen_constants.py on every run: the field order
fed to the hash object of the world proof. A change in the Rust that alters one of them breaks exactly these
obligations, independently of the correspondence run.
-/
import WowSrp.Gen.Facts
namespace WowSrp

/-- C06: world proof = H(U | 0u32 | client seed | server seed | K) -/
theorem C06_source_layout : Gen.layoutWorldProof =
    [["username.as_ref()", "0_u32.to_le_bytes()", "client_seed.to_le_bytes()", "server_seed.to_le_bytes()", "session_key.as_le_bytes()"], ["ctors:Sha1::new", "methods:chain_update,chain_update,chain_update,chain_update,chain_update,finalize", "control:", "rebound:", "tail:Proof::from_le_bytes(server_proof)"]] := rfl

end WowSrp
