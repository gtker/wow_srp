/-
Translator leg: the semantics the model takes from `#[derive(..)]` (DESIGN.md §0.2, "structural facts").
The model treats `clone()` as a field-wise copy, `==` / `cmp` / `hash` as structural over ALL fields of a struct, dropping as a
no-op, and `Default` as what the hand-written impls do.  tools/gen_constants.py lists, on every run, every hand-written impl of
Clone/Copy/PartialEq/Eq/Hash/Ord/PartialOrd/Default/Drop and the derive list (restricted to those traits) of every struct / enum of the
non-test source, and in the same lists what decides WHICH text is the code (macro definitions, `mod` declarations, `cfg` attributes other
than `test`), grouped by module.  One file of this directory per group (Srp, NStr, Vanilla, Tbc, Wrath, Helpers), each with the obligation
that its group is exactly what the model was written against; `Cxx.lean` collects the groups property Cxx depends on.  This file is the
group of the source files outside all others.
-/
import WowSrp.Gen.Constants
import WowSrp.Gen.Facts
namespace WowSrp

/-- no struct / enum / structural impl lives in a source file the model does not know about -/
theorem structuralOther_ok : Gen.structuralOther = [] := rfl

end WowSrp
