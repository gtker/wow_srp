/-
Structural facts (what they are: Structural/Other.lean) of the source group src/pin.rs, src/integrity.rs, src/matrix_card.rs (`structuralAux`; only matrix_card.rs declares types).
-/
import WowSrp.Gen.Constants
import WowSrp.Gen.Facts
namespace WowSrp

def expected_structuralAux : List String := ["MatrixCard @src/matrix_card.rs: Clone Ord PartialOrd Eq PartialEq Hash | digit_count u8 width u8 height u8 data",
  "MatrixCardPrinter @src/matrix_card.rs: Clone | chunks a",
  "MatrixCardVerifier @src/matrix_card.rs: Clone | challenge_count u8 height u8 width u8 coordinates hmac rc4 Rc4"]

theorem structuralAux_ok : Gen.structuralAux = expected_structuralAux := rfl

end WowSrp
