/-
Structural facts (what they are: Structural/Other.lean) of the source group src/normalized_string.rs.
-/
import WowSrp.Gen.Constants
import WowSrp.Gen.Facts
namespace WowSrp

def expected_structuralNStr : List String := ["NormalizedString @src/normalized_string.rs: PartialEq Eq Hash Ord PartialOrd Clone | s length u8"]

theorem structuralNStr_ok : Gen.structuralNStr = expected_structuralNStr := rfl

end WowSrp
