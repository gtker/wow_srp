/-
Structural facts (what they are: Structural/Other.lean) of the source group src/wrath_header/, src/rc4.rs.
-/
import WowSrp.Gen.Constants
import WowSrp.Gen.Facts
namespace WowSrp

def expected_structuralWrath : List String := ["Default for ProofSeed @src/wrath_header/mod.rs",
  "ClientCrypto @src/wrath_header/mod.rs: Clone Ord PartialOrd Eq PartialEq Hash | decrypt ClientDecrypterHalf encrypt ClientEncrypterHalf",
  "ClientDecrypterHalf @src/wrath_header/decrypt.rs: Clone Ord PartialOrd Eq PartialEq Hash | decrypt InnerCrypto header",
  "ClientEncrypterHalf @src/wrath_header/encrypt.rs: Clone Ord PartialOrd Eq PartialEq Hash | encrypt InnerCrypto",
  "InnerCrypto @src/wrath_header/inner_crypto/mod.rs: Clone Ord PartialOrd Eq PartialEq Hash | inner Rc4",
  "ProofSeed @src/wrath_header/mod.rs: Clone Copy Ord PartialOrd Eq PartialEq Hash | seed u32",
  "Rc4 @src/rc4.rs: Clone Ord PartialOrd Eq PartialEq Hash | state i u8 j u8",
  "ServerCrypto @src/wrath_header/mod.rs: Clone Ord PartialOrd Eq PartialEq Hash | decrypt ServerDecrypterHalf encrypt ServerEncrypterHalf",
  "ServerDecrypterHalf @src/wrath_header/decrypt.rs: Clone Ord PartialOrd Eq PartialEq Hash | decrypt InnerCrypto",
  "ServerEncrypterHalf @src/wrath_header/encrypt.rs: Clone Ord PartialOrd Eq PartialEq Hash | encrypt InnerCrypto server_header",
  "ServerHeader @src/wrath_header/mod.rs: Clone Copy Ord PartialOrd Eq PartialEq Hash | size u32 opcode u16",
  "WrathServerAttempt @src/wrath_header/decrypt.rs: "]

theorem structuralWrath_ok : Gen.structuralWrath = expected_structuralWrath := rfl

end WowSrp
