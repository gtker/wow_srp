/-
Structural facts (what they are: Structural/Other.lean) of the source group src/key.rs, server.rs, client.rs, primes.rs, bigint.rs,
srp_internal.rs, srp_internal_client.rs, lib.rs, error.rs, hex.rs (with the `cfg`, macro and `mod` entries of the crate root).
-/
import WowSrp.Gen.Constants
import WowSrp.Gen.Facts
namespace WowSrp

def expected_structuralSrp : List String := ["Default for $name @src/key.rs",
  "Default for Generator @src/primes.rs",
  "Default for LargeSafePrime @src/primes.rs",
  "cfg all(feature=\"srp-default-math\",not(feature=\"srp-fast-math\")) @src/bigint.rs",
  "cfg all(feature=\"srp-default-math\",not(feature=\"srp-fast-math\")) @src/bigint.rs",
  "cfg all(feature=\"srp-default-math\",not(feature=\"srp-fast-math\")) @src/bigint.rs",
  "cfg all(feature=\"srp-default-math\",not(feature=\"srp-fast-math\")) @src/bigint.rs",
  "cfg all(test,any(feature=\"srp-default-math\",feature=\"srp-fast-math\")) @src/lib.rs",
  "cfg any(feature=\"srp-default-math\",feature=\"srp-fast-math\") @src/key.rs",
  "cfg any(feature=\"srp-default-math\",feature=\"srp-fast-math\") @src/key.rs",
  "cfg any(feature=\"srp-default-math\",feature=\"srp-fast-math\") @src/key.rs",
  "cfg any(feature=\"srp-default-math\",feature=\"srp-fast-math\") @src/key.rs",
  "cfg any(feature=\"srp-default-math\",feature=\"srp-fast-math\") @src/key.rs",
  "cfg any(feature=\"srp-default-math\",feature=\"srp-fast-math\") @src/key.rs",
  "cfg any(feature=\"srp-default-math\",feature=\"srp-fast-math\") @src/key.rs",
  "cfg any(feature=\"srp-default-math\",feature=\"srp-fast-math\") @src/key.rs",
  "cfg any(feature=\"srp-default-math\",feature=\"srp-fast-math\") @src/key.rs",
  "cfg any(feature=\"srp-default-math\",feature=\"srp-fast-math\") @src/lib.rs",
  "cfg any(feature=\"srp-default-math\",feature=\"srp-fast-math\") @src/lib.rs",
  "cfg any(feature=\"srp-default-math\",feature=\"srp-fast-math\") @src/lib.rs",
  "cfg any(feature=\"srp-default-math\",feature=\"srp-fast-math\") @src/lib.rs",
  "cfg any(feature=\"srp-default-math\",feature=\"srp-fast-math\") @src/lib.rs",
  "cfg any(feature=\"srp-default-math\",feature=\"srp-fast-math\") @src/primes.rs",
  "cfg any(feature=\"srp-default-math\",feature=\"srp-fast-math\") @src/primes.rs",
  "cfg any(feature=\"srp-default-math\",feature=\"srp-fast-math\") @src/primes.rs",
  "cfg any(feature=\"srp-default-math\",feature=\"srp-fast-math\") @src/primes.rs",
  "cfg any(feature=\"srp-default-math\",feature=\"srp-fast-math\") @src/primes.rs",
  "cfg any(feature=\"srp-default-math\",feature=\"srp-fast-math\") @src/primes.rs",
  "cfg any(feature=\"srp-default-math\",feature=\"srp-fast-math\") @src/primes.rs",
  "cfg any(feature=\"srp-default-math\",feature=\"srp-fast-math\") @src/primes.rs",
  "cfg any(feature=\"srp-default-math\",feature=\"srp-fast-math\") @src/primes.rs",
  "cfg any(feature=\"srp-default-math\",feature=\"srp-fast-math\") @src/primes.rs",
  "cfg any(feature=\"srp-default-math\",feature=\"srp-fast-math\") @src/primes.rs",
  "cfg any(feature=\"srp-default-math\",feature=\"srp-fast-math\") @src/primes.rs",
  "cfg any(feature=\"srp-default-math\",feature=\"srp-fast-math\") @src/primes.rs",
  "cfg any(feature=\"srp-default-math\",feature=\"srp-fast-math\") @src/primes.rs",
  "cfg feature=\"integrity\" @src/lib.rs",
  "cfg feature=\"matrix-card\" @src/lib.rs",
  "cfg feature=\"srp-fast-math\" @src/bigint.rs",
  "cfg feature=\"srp-fast-math\" @src/bigint.rs",
  "cfg feature=\"srp-fast-math\" @src/bigint.rs",
  "cfg feature=\"srp-fast-math\" @src/bigint.rs",
  "cfg feature=\"srp-fast-math\" @src/bigint.rs",
  "cfg feature=\"tbc-header\" @src/lib.rs",
  "cfg feature=\"wrath-header\" @src/lib.rs",
  "macro key_bigint @src/key.rs",
  "macro key_new @src/key.rs",
  "macro key_no_checks_initialization @src/key.rs",
  "macro key_wrapper @src/key.rs",
  "mod bigint #[cfg(any(feature=\"srp-default-math\",feature=\"srp-fast-math\"))] @src/lib.rs",
  "mod client #[cfg(any(feature=\"srp-default-math\",feature=\"srp-fast-math\"))] @src/lib.rs",
  "mod error @src/lib.rs",
  "mod hex #[cfg(test)] @src/lib.rs",
  "mod integrity #[cfg(feature=\"integrity\")] @src/lib.rs",
  "mod key @src/lib.rs",
  "mod matrix_card #[cfg(feature=\"matrix-card\")] @src/lib.rs",
  "mod normalized_string @src/lib.rs",
  "mod pin @src/lib.rs",
  "mod primes @src/lib.rs",
  "mod rc4 @src/lib.rs",
  "mod server #[cfg(any(feature=\"srp-default-math\",feature=\"srp-fast-math\"))] @src/lib.rs",
  "mod srp_internal #[cfg(any(feature=\"srp-default-math\",feature=\"srp-fast-math\"))] @src/lib.rs",
  "mod srp_internal_client #[cfg(any(feature=\"srp-default-math\",feature=\"srp-fast-math\"))] @src/lib.rs",
  "mod tbc_header #[cfg(feature=\"tbc-header\")] @src/lib.rs",
  "mod test #[cfg(all(test,any(feature=\"srp-default-math\",feature=\"srp-fast-math\")))] @src/lib.rs",
  "mod vanilla_header @src/lib.rs",
  "mod wrath_header #[cfg(feature=\"wrath-header\")] @src/lib.rs",
  "$name @src/key.rs: Clone Copy Ord PartialOrd PartialEq Eq Hash | key",
  "Generator @src/primes.rs: ",
  "Integer @src/bigint.rs: ",
  "InvalidPublicKeyError @src/error.rs:  | PublicKeyIsZero PublicKeyModLargeSafePrimeIsZero",
  "KValue @src/primes.rs: ",
  "LargeSafePrime @src/primes.rs: ",
  "MatchProofsError @src/error.rs:  | client_proof server_proof",
  "NormalizedStringError @src/error.rs:  | CharacterNotAllowed StringTooLong",
  "SrpClient @src/client.rs: Clone Ord PartialOrd Eq PartialEq Hash | username NormalizedString session_key SessionKey",
  "SrpClientChallenge @src/client.rs: Clone Ord PartialOrd Eq PartialEq Hash | username NormalizedString client_proof Proof client_public_key PublicKey session_key SessionKey",
  "SrpClientReconnection @src/client.rs: Copy Clone Ord PartialOrd Eq PartialEq Default Hash | challenge_data proof",
  "SrpError @src/error.rs:  | ProofsDoNotMatch InvalidPublicKey NormalizedStringError",
  "SrpProof @src/server.rs: Clone Ord PartialOrd Eq PartialEq Hash | username NormalizedString server_public_key PublicKey salt Salt server_private_key PrivateKey password_verifier Verifier",
  "SrpServer @src/server.rs: Clone Ord PartialOrd Eq PartialEq Hash | username NormalizedString session_key SessionKey reconnect_challenge_data ReconnectData",
  "SrpVerifier @src/server.rs: Clone Ord PartialOrd Eq PartialEq Hash | username NormalizedString password_verifier Verifier salt Salt",
  "UnsplitCryptoError @src/error.rs:  | "]

theorem structuralSrp_ok : Gen.structuralSrp = expected_structuralSrp := rfl

end WowSrp
