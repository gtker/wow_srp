/-
Translated from the working tree by tools/gen_api.py (Gen/CodeApi.lean) and proved equal to the model for every argument:
`calculate_session_key` (srp_internal.rs), `SrpVerifier::from_database_values`, `with_specific_salt`, `with_specific_private_key` (server.rs).
-/
import WowSrp.Props.Source.ApiBase
import WowSrp.Lemmas.MiniApi
namespace WowSrp
open MiniApi

theorem calculateSessionKey_run (P : Prims) (C : Crypto) (be : Backend) (A B v b : Bytes)
    (hu : P.call "calculate_u" [.bytes A, .bytes B] = some (.ok (.bytes (calculateU C A B))))
    (hS : ∀ u, P.call "calculate_S" [.bytes A, .bytes v, .bytes u, .bytes b] = some (outBytes (calculateS be A v u b)))
    (hK : ∀ S, P.call "calculate_interleaved" [.bytes S] = some (outBytes (calculateInterleaved C S))) :
    Gen.CodeApi.calculateSessionKey.run P [] [.bytes A, .bytes B, .bytes v, .bytes b] []
      = some ((calculateSessionKey C be A B v b).bind (fun K => .ok (.bytes K, [], []))) := by
  simp [Gen.CodeApi.calculateSessionKey, calculateSessionKey, hu, hS, hK, outBytes]

/-- `calculate_session_key(client_public_key, server_public_key, password_verifier, server_private_key)` -/
theorem C03_translated_calculate_session_key (C : Crypto) (be : Backend) (A B v b : Bytes) :
    Gen.CodeApi.calculateSessionKey.run (srpPrims C be) [] [.bytes A, .bytes B, .bytes v, .bytes b] []
      = some ((calculateSessionKey C be A B v b).bind (fun K => .ok (.bytes K, [], []))) := by
  apply calculateSessionKey_run <;> intros <;> simp [Prims.call, srpPrims]

/-- `SrpVerifier::with_specific_private_key(self, server_private_key)` -/
theorem C03_translated_with_specific_private_key (C : Crypto) (be : Backend) (s : SrpVerifier) (b : Bytes) :
    Gen.CodeApi.withSpecificPrivateKey.run (srpPrims C be) (selfVerifier s) [.bytes b] []
      = some ((s.withSpecificPrivateKey be b).bind (fun r => match r with
          | .error e => .ok (.err (pkErrVal e), selfVerifier s, [])
          | .ok p => .ok (.ok (valProof p), selfVerifier s, []))) := by
  simp only [SrpVerifier.withSpecificPrivateKey]
  rcases h : calculateServerPublicKey be s.passwordVerifier b with (e | B) | m <;>
    simp [Gen.CodeApi.withSpecificPrivateKey, Prims.call, srpPrims, h, outKey, selfVerifier, valProof]

theorem fromDatabaseValues_run (P : Prims) (u : NStr) (v salt : Bytes) :
    Gen.CodeApi.fromDatabaseValues.run P [] [.nstr u, .bytes v, .bytes salt] []
      = some (.ok (valVerifier (SrpVerifier.fromDatabaseValues u v salt), [], [])) := by
  simp [Gen.CodeApi.fromDatabaseValues, valVerifier, SrpVerifier.fromDatabaseValues]

/-- `SrpVerifier::from_database_values(username, password_verifier, salt)` -/
theorem C01_translated_from_database_values (C : Crypto) (be : Backend) (u : NStr) (v salt : Bytes) :
    Gen.CodeApi.fromDatabaseValues.run (srvPrims C be) [] [.nstr u, .bytes v, .bytes salt] []
      = some (.ok (valVerifier (SrpVerifier.fromDatabaseValues u v salt), [], [])) :=
  fromDatabaseValues_run _ u v salt

theorem withSpecificSalt_run (P : Prims) (C : Crypto) (be : Backend) (u p : NStr) (salt : Bytes)
    (hv : P.call "calculate_password_verifier" [.nstr u, .nstr p, .bytes salt]
      = some (outBytes (calculatePasswordVerifier C be u.asRef p.asRef salt)))
    (hd : ∀ v, P.call "Self::from_database_values" [.nstr u, .bytes v, .bytes salt]
      = some (.ok (valVerifier (SrpVerifier.fromDatabaseValues u v salt)))) :
    Gen.CodeApi.withSpecificSalt.run P [] [.nstr u, .nstr p, .bytes salt] []
      = some ((SrpVerifier.fromUsernameAndPassword C be u p salt).bind (fun s => .ok (valVerifier s, [], []))) := by
  simp [Gen.CodeApi.withSpecificSalt, SrpVerifier.fromUsernameAndPassword, hv, hd, outBytes]

/-- `SrpVerifier::with_specific_salt(username, password, salt)` -/
theorem C03_translated_with_specific_salt (C : Crypto) (be : Backend) (u p : NStr) (salt : Bytes) :
    Gen.CodeApi.withSpecificSalt.run (srvPrims C be) [] [.nstr u, .nstr p, .bytes salt] []
      = some ((SrpVerifier.fromUsernameAndPassword C be u p salt).bind (fun s => .ok (valVerifier s, [], []))) := by
  apply withSpecificSalt_run <;> intros <;> simp [Prims.call, srvPrims, srpPrims]

theorem C03_translated_setup_signatures :
    Gen.CodeApi.calculateSessionKeySig = "client_public_key:&PublicKey,server_public_key:&PublicKey,password_verifier:&Verifier,server_private_key:&PrivateKey,->SessionKey" ∧
    Gen.CodeApi.withSpecificPrivateKeySig = "self,server_private_key:PrivateKey,->Result<SrpProof,InvalidPublicKeyError>" ∧
    Gen.CodeApi.fromDatabaseValuesSig = "username:NormalizedString,password_verifier:[u8;PASSWORD_VERIFIER_LENGTH as usize],salt:[u8;SALT_LENGTH as usize],->Self" ∧
    Gen.CodeApi.withSpecificSaltSig = "username:NormalizedString,password:NormalizedString,salt:&Salt,->Self" := ⟨rfl, rfl, rfl, rfl⟩

#print axioms C03_translated_calculate_session_key
#print axioms C03_translated_with_specific_private_key
#print axioms C01_translated_from_database_values
#print axioms C03_translated_with_specific_salt
#print axioms C03_translated_setup_signatures
end WowSrp
