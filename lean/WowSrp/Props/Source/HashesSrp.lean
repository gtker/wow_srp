/-
The hash-layout functions of src/srp_internal.rs and src/srp_internal_client.rs, translated from the working tree by tools/gen_hash.py
(Gen/CodeHash.lean), denote the model's functions (Model/Srp.lean) for EVERY argument and EVERY `Crypto` (the SHA-1 is a parameter: nothing
about it is used, except — for the xor loop of `calculate_xor_hash`, which writes into a 20-byte array — that its digests are 20 bytes long).
Parameters are applied in the order of the Rust signature.  What is hashed, in which order, with which accessor, is thus the model function
itself, re-derived from the source on every run; the `*_source_layout` facts (Props/Source/C02.lean, C03.lean) compare the same with an expected text.
-/
import WowSrp.Gen.CodeHash
import WowSrp.Model.Srp
namespace WowSrp
open MiniHash

def noCallees : Callees := fun _ => none

theorem C03_translated_calculate_x (C : Crypto) (U P salt : Bytes) :
    Gen.CodeHash.calculateX.run C noCallees [.bytes U, .bytes P, .bytes salt] = some (calculateX C U P salt) := by
  simp [Gen.CodeHash.calculateX, HashProg.run, execAll, HStmt.exec, feedAll, HArg.fed, HArg.val, calculateX, bind, Option.bind]

theorem C03_translated_calculate_u (C : Crypto) (A B : Bytes) :
    Gen.CodeHash.calculateU.run C noCallees [.bytes A, .bytes B] = some (calculateU C A B) := by
  simp [Gen.CodeHash.calculateU, HashProg.run, execAll, HStmt.exec, feedAll, HArg.fed, HArg.val, calculateU, bind, Option.bind]

theorem C03_translated_server_proof (C : Crypto) (A M1 K : Bytes) :
    Gen.CodeHash.serverProof.run C noCallees [.bytes A, .bytes M1, .bytes K] = some (calculateServerProof C A M1 K) := by
  simp [Gen.CodeHash.serverProof, HashProg.run, execAll, HStmt.exec, feedAll, HArg.fed, HArg.val, calculateServerProof, bind, Option.bind]

/-- `calculate_client_proof(username, session_key, client_public_key, server_public_key, salt)` -/
theorem C03_translated_client_proof (C : Crypto) (U K A B salt : Bytes) :
    Gen.CodeHash.clientProof.run C noCallees [.bytes U, .bytes K, .bytes A, .bytes B, .bytes salt] = some (calculateClientProof C U K A B salt) := by
  simp [Gen.CodeHash.clientProof, HashProg.run, execAll, HStmt.exec, feedAll, HArg.fed, HArg.val, calculateClientProof, bind, Option.bind,
    Gen.precalculatedXorHash]

/-- `calculate_xor_hash(large_safe_prime, generator)`; the generator is a `u8` -/
theorem C03_translated_xor_hash (C : Crypto) (hC : C.WF) (nLE : Bytes) (g : Nat) (hg : g < 256) :
    Gen.CodeHash.xorHash.run C noCallees [.bytes nLE, .num g] = some (calculateXorHash C nLE g) := by
  simp [Gen.CodeHash.xorHash, HashProg.run, execAll, HStmt.exec, feedAll, HArg.fed, HArg.val, calculateXorHash, bind, Option.bind, hg,
    xorLoop, hC.sha1_len, xorBytes]

/-- the xor loop needs the digests to fit: with 21-byte "digests" the Rust would panic on `xor_hash[20]`, and the term has no meaning -/
theorem C03_translated_xor_hash_needs_digest_length :
    Gen.CodeHash.xorHash.run ⟨fun _ => List.replicate 21 0, fun _ _ => [], fun _ => []⟩ noCallees [.bytes [], .num 7] = none := by
  decide +kernel

/-- what `calculate_xor_hash` means where it is called: the translated function itself -/
def xorHashFn (C : Crypto) : List Val → Option Bytes := fun vs => Gen.CodeHash.xorHash.run C noCallees vs
def srpCallees (C : Crypto) : Callees := fun n =>
  if n = "calculate_xor_hash" then some (xorHashFn C) else none

/-- `calculate_client_proof_with_custom_value(username, session_key, client_public_key, server_public_key, salt, large_safe_prime, generator)` -/
theorem C03_translated_client_proof_custom (C : Crypto) (hC : C.WF) (U K A B salt nLE : Bytes) (g : Nat) (hg : g < 256) :
    Gen.CodeHash.clientProofCustom.run C (srpCallees C) [.bytes U, .bytes K, .bytes A, .bytes B, .bytes salt, .bytes nLE, .num g]
      = some (calculateClientProofCustom C U K A B salt nLE g) := by
  have hx : xorHashFn C [.bytes nLE, .num g] = some (calculateXorHash C nLE g) := C03_translated_xor_hash C hC nLE g hg
  simp [Gen.CodeHash.clientProofCustom, HashProg.run, execAll, HStmt.exec, feedAll, valAll, HArg.fed, HArg.val, calculateClientProofCustom, bind,
    Option.bind, srpCallees, hx]

/-- non-vacuity: on a toy SHA-1 the translated `calculate_x` really runs (and a swapped argument order gives something else) -/
example : Gen.CodeHash.calculateX.run ⟨fun m => m.take 20 ++ List.replicate (20 - m.length) 0, fun _ _ => [], fun _ => []⟩ noCallees
    [.bytes [1], .bytes [2], .bytes [3]] = some [3, 1, 0x3a, 2, 0, 0, 0, 0, 0, 0, 0, 0, 0, 0, 0, 0, 0, 0, 0, 0] := by decide +kernel

/-- the same obligations under the names of the other properties that rest on them (each check audits its own names) -/
theorem C02_translated_client_proof (C : Crypto) (U K A B salt : Bytes) :
    Gen.CodeHash.clientProof.run C noCallees [.bytes U, .bytes K, .bytes A, .bytes B, .bytes salt] = some (calculateClientProof C U K A B salt) :=
  C03_translated_client_proof C U K A B salt
theorem C02_translated_server_proof (C : Crypto) (A M1 K : Bytes) :
    Gen.CodeHash.serverProof.run C noCallees [.bytes A, .bytes M1, .bytes K] = some (calculateServerProof C A M1 K) :=
  C03_translated_server_proof C A M1 K
theorem C02_translated_calculate_x (C : Crypto) (U P salt : Bytes) :
    Gen.CodeHash.calculateX.run C noCallees [.bytes U, .bytes P, .bytes salt] = some (calculateX C U P salt) :=
  C03_translated_calculate_x C U P salt
theorem C01_translated_calculate_x (C : Crypto) (U P salt : Bytes) :
    Gen.CodeHash.calculateX.run C noCallees [.bytes U, .bytes P, .bytes salt] = some (calculateX C U P salt) :=
  C03_translated_calculate_x C U P salt

#print axioms C03_translated_calculate_x
#print axioms C03_translated_calculate_u
#print axioms C03_translated_server_proof
#print axioms C03_translated_client_proof
#print axioms C03_translated_xor_hash
#print axioms C03_translated_client_proof_custom
end WowSrp
