/-
Translator leg for C09 (and C18, which uses the same RC4): `Rc4::pseudo_random_generation` is translated from the working tree on
every run (tools/gen_code.py → Gen/Code.lean, meaning in Model/MiniRc4.lean).  For EVERY cipher state the translated body computes
exactly the model's `Rc4.prga` — new table, new counters, keystream byte, and the same panics.  The C09 theorems (RC4 = textbook RC4,
keystream independent of data, chunking, round trips) are about `Rc4.prga`; through this equality they are about the code as written.
-/
import WowSrp.Gen.Code
import WowSrp.Model.Wrath
import WowSrp.Lemmas.Out
namespace WowSrp
open MiniRc4

theorem C09_translated_prga (r : Rc4) :
    prgaOf Gen.Code.rc4PrgaBody Gen.Code.rc4PrgaResult r = r.prga := by
  simp [prgaOf, Rc4.prga, Gen.Code.rc4PrgaBody, Gen.Code.rc4PrgaResult, execAll, RStmt.exec, RExpr.eval, List.lookup, Out.bind_assoc]

/-- the same obligation under the name of C18, whose verifier uses the same RC4 -/
theorem C18_translated_prga (r : Rc4) :
    prgaOf Gen.Code.rc4PrgaBody Gen.Code.rc4PrgaResult r = r.prga := C09_translated_prga r

end WowSrp
