/-
Translator leg for C01 / C03 / C14: `SKey::as_equal_slice` — the rule "drop the low-order zero bytes of S, one more if their number is
odd" that decides the session key of one login in 256 and was the crate's 0.1.1 bug — is translated from the working tree on every
run (tools/gen_code.py → Gen/Code.lean, meaning in Model/MiniScan.lean).  For EVERY byte string the translated program computes the
model's `asEqualSlice` (same slice, and it panics exactly when the model says the Rust panics).  `C03_interleave`, `C14_interleaved`,
`C01_login_exact` are about `asEqualSlice`; through this equality they are about the code as written now.
-/
import WowSrp.Gen.Code
import WowSrp.Model.Srp
namespace WowSrp
open MiniScan

/-- the scan loop: `while lead < s.len() && s[lead] == 0 { lead += 1 }` is the model's `scanZeros` whenever enough fuel is left -/
theorem whileInc_scan (s : Bytes) : ∀ (fuel lead : Nat), s.length - lead < fuel →
    runWhile s (Cond.and (Cond.lt NExpr.lead NExpr.len) (Cond.byteEq NExpr.lead 0)) 1 fuel lead = .ok (scanZeros s fuel lead)
  | 0, lead, h => by omega
  | fuel + 1, lead, h => by
    unfold runWhile scanZeros
    by_cases hl : lead < s.length
    · by_cases hb : s[lead] = 0
      · have ih := whileInc_scan s fuel (lead + 1) (by omega)
        simp [Cond.eval, NExpr.eval, hl, hb, bind, Out.bind, ih]
      · have hb' : ¬ (s[lead]).toNat = 0 := by
          intro h0; apply hb; exact UInt8.toNat_inj.mp (by simpa using h0)
        have hb2 : ((s[lead]).toNat == 0) = false := by simpa using hb'
        simp [Cond.eval, NExpr.eval, hl, hb, hb2, bind, Out.bind]
    · simp [Cond.eval, NExpr.eval, hl, bind, Out.bind]

/-- C03 / C01 / C14: the strip rule, as translated from the source, IS the model's `asEqualSlice` (every byte string) -/
theorem C03_translated_strip_rule (s : Bytes) :
    MiniRust.Out.toOption (Gen.Code.asEqualSlice.run s) = MiniRust.Out.toOption (asEqualSlice s) := by
  have hscan := whileInc_scan s (s.length + 1) 0 (by omega)
  unfold Prog.run asEqualSlice Gen.Code.asEqualSlice
  simp only [execAll, SStmt.exec, hscan, bind, Out.bind, Cond.eval, NExpr.eval]
  by_cases hodd : scanZeros s (s.length + 1) 0 % 2 = 0
  · by_cases hle : scanZeros s (s.length + 1) 0 ≤ s.length <;>
      simp [hodd, hle, MiniRust.Out.toOption]
  · have hodd1 : scanZeros s (s.length + 1) 0 % 2 = 1 := by omega
    by_cases hle : scanZeros s (s.length + 1) 0 + 1 ≤ s.length <;>
      simp [hodd1, hle, MiniRust.Out.toOption]

/-- the same obligation under the names of the other properties that rest on the strip rule -/
theorem C01_translated_strip_rule (s : Bytes) :
    MiniRust.Out.toOption (Gen.Code.asEqualSlice.run s) = MiniRust.Out.toOption (asEqualSlice s) := C03_translated_strip_rule s
theorem C14_translated_strip_rule (s : Bytes) :
    MiniRust.Out.toOption (Gen.Code.asEqualSlice.run s) = MiniRust.Out.toOption (asEqualSlice s) := C03_translated_strip_rule s

/-- sanity: the translated program on the all-zero S (the C14 case) and on an odd zero run -/
example : Gen.Code.asEqualSlice.run (List.replicate 32 0) = .ok [] := by decide +kernel
example : Gen.Code.asEqualSlice.run [0, 0, 0, 5, 0, 7] = .ok [0, 7] := by decide +kernel

end WowSrp
