/-
Translator leg for the Wrath header wire format (C10, C11): both branches of `ServerEncrypterHalf::encrypt_server_header`
(threshold, `set_large_header(size[1])`, which bytes of the big-endian size go where), `ClientEncrypterHalf::encrypt_client_header`,
`ServerHeader::from_small_array` and `from_large_array` (with `clear_large_header`) are translated from the working tree on every
run; for ALL sizes and opcodes / ALL byte lists they denote the model's `wrathServerHeaderBytes`, `clientHeaderBytes`, `parseSmall`,
`parseLarge` — the functions the C10 round-trip theorems are about.
-/
import WowSrp.Gen.Code
import WowSrp.Model.Wrath
namespace WowSrp
open MiniLayout MiniRust

theorem C10_translated_layout_wrath (size opcode : Nat) :
    Gen.Code.wrathServerHeaderLayout.bytes size opcode = wrathServerHeaderBytes size opcode ∧
    layoutBytes Gen.Code.wrathClientHeaderLayout size opcode = clientHeaderBytes size opcode := by
  constructor
  · unfold Branching.bytes wrathServerHeaderBytes
    have ht : Gen.Code.wrathServerHeaderLayout.threshold = Gen.wrathLargeThreshold := by decide
    rw [ht]
    split <;>
      simp [Gen.Code.wrathServerHeaderLayout, layoutBytes, LByte.eval, Field.val, be32, leN, Nat.div_div_eq_div_mul]
  · simp [Gen.Code.wrathClientHeaderLayout, layoutBytes, LByte.eval, Field.val, clientHeaderBytes, be16, leN, Nat.div_div_eq_div_mul]

theorem C10_translated_parse_wrath (b : Bytes) :
    Gen.Code.wrathSmallHeaderParse.eval b = Out.toOption (parseSmall b) ∧
    Gen.Code.wrathLargeHeaderParse.eval b = Out.toOption (parseLarge b) := by
  constructor
  · rcases b with _ | ⟨b0, _ | ⟨b1, _ | ⟨b2, _ | ⟨b3, _ | ⟨b4, t⟩⟩⟩⟩⟩ <;>
      simp [Gen.Code.wrathSmallHeaderParse, ParseSpec.eval, PByte.eval, Order.value, parseSmall, Out.toOption]
    all_goals omega
  · rcases b with _ | ⟨b0, _ | ⟨b1, _ | ⟨b2, _ | ⟨b3, _ | ⟨b4, _ | ⟨b5, t⟩⟩⟩⟩⟩⟩ <;>
      simp [Gen.Code.wrathLargeHeaderParse, ParseSpec.eval, PByte.eval, Order.value, parseLarge, clearLargeHeader, Out.toOption]
    all_goals omega

/-- the same obligation under the name of C11 -/
theorem C11_translated_layout_wrath (size opcode : Nat) :
    Gen.Code.wrathServerHeaderLayout.bytes size opcode = wrathServerHeaderBytes size opcode ∧
    layoutBytes Gen.Code.wrathClientHeaderLayout size opcode = clientHeaderBytes size opcode := C10_translated_layout_wrath size opcode

end WowSrp
