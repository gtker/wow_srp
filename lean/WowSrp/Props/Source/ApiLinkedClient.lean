/-
The client's `verify_server_proof` and `SrpClientChallenge::new` with their hash callees — `calculate_server_proof`, `calculate_x`, `calculate_u`,
`calculate_client_proof_with_custom_value` (whose own callee `calculate_xor_hash` is translated too) — meaning their TRANSLATED terms (see
Props/Source/ApiLinkBase.lean): still the model's functions.  (`calculate_client_public_key`, `calculate_client_S` keep the meaning given by the
table — they are tied by the formula theorems — and so does `calculate_interleaved`.)
-/
import WowSrp.Props.Source.ApiLinkBase
import WowSrp.Props.Source.ApiClient
import WowSrp.Props.Source.HashesSrp
namespace WowSrp
open MiniApi

/-- a translated hash-layout function that has callees of its own -/
def hashCalleeWith (p : MiniHash.HashProg) (C : Crypto) (cs : MiniHash.Callees) : List AVal → Out AVal := fun vs =>
  match (toHashVals vs).bind (fun hv => p.run C cs hv) with
  | some b => .ok (.bytes b)
  | none => .panic "the translated callee has no meaning on these arguments"

/-- `hashCallee` (ApiLinkBase.lean) is the case of no callees (`noCallees` of HashesSrp.lean, the form the `C03_translated_*` theorems have) -/
theorem hashCallee_eq (p : MiniHash.HashProg) (C : Crypto) : hashCallee p C = hashCalleeWith p C noCallees := rfl

def clientLinkedPrims (C : Crypto) (be : Backend) : Prims := fun n =>
  if n = "calculate_server_proof" then some (hashCallee Gen.CodeHash.serverProof C)
  else if n = "calculate_x" then some (hashCallee Gen.CodeHash.calculateX C)
  else if n = "calculate_u" then some (hashCallee Gen.CodeHash.calculateU C)
  else if n = "calculate_client_proof_with_custom_value" then some (hashCalleeWith Gen.CodeHash.clientProofCustom C (srpCallees C))
  else srpPrims C be n

theorem noHashCallees_eq2 : noHashCallees = noCallees := rfl

theorem C02_linked_verify_server_proof (C : Crypto) (be : Backend) (c : SrpClientChallenge) (M2 : Bytes) :
    Gen.CodeApi.verifyServerProof.run (clientLinkedPrims C be) (selfChallenge c) [.bytes M2] []
      = some (.ok (match c.verifyServerProof C M2 with
          | .error e => (.err (valMatchErr e), selfChallenge c, [])
          | .ok cl => (.ok (valClient cl), selfChallenge c, []))) := by
  apply verifyServerProof_run
  simp [Prims.call, clientLinkedPrims, hashCallee_eq, hashCalleeWith, toHashVals, toHashVal, C03_translated_server_proof]

/-- the announced generator is a `u8`; digests are 20 bytes (the xor loop of `calculate_xor_hash`) -/
theorem C03_linked_client_new (C : Crypto) (hC : C.WF) (be : Backend) (u p : NStr) (g : Nat) (hg : g < 256) (nLE B salt a : Bytes) (rest : List Bytes) :
    (Gen.CodeApi.clientNew.run (clientLinkedPrims C be) [] [.nstr u, .nstr p, .num g, .bytes nLE, .bytes B, .bytes salt] (a :: rest)).map outcome
      = some (outcome ((SrpClientChallenge.new C be u p g nLE B salt a).bind (fun c => .ok (valChallenge c, [], rest)))) := by
  apply clientNew_run <;> intros <;>
    simp [Prims.call, clientLinkedPrims, srpPrims, hashCallee_eq, hashCalleeWith, toHashVals, toHashVal,
      C03_translated_calculate_x, C03_translated_calculate_u, C03_translated_client_proof_custom C hC _ _ _ _ _ _ g hg]

#print axioms C02_linked_verify_server_proof
#print axioms C03_linked_client_new
end WowSrp
