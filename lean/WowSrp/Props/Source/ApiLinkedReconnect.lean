/-
`SrpServer::verify_reconnection_attempt` and `SrpClient::calculate_reconnect_values` with `calculate_reconnect_proof` meaning its TRANSLATED
term (see Props/Source/ApiLinkBase.lean): still the model's functions.
-/
import WowSrp.Props.Source.ApiLinkBase
import WowSrp.Props.Source.HashesReconnect
import WowSrp.Props.Source.ApiReconnect
namespace WowSrp
open MiniApi

def reconnectLinkedPrims (C : Crypto) (be : Backend) : Prims := fun n =>
  if n = "calculate_reconnect_proof" then some (hashCallee Gen.CodeHash.reconnectProof C) else srpPrims C be n

theorem hashCallee_reconnect_proof (C : Crypto) (u : NStr) (cd sd K : Bytes) :
    hashCallee Gen.CodeHash.reconnectProof C [.nstr u, .bytes cd, .bytes sd, .bytes K] = .ok (.bytes (calculateReconnectProof C u.asRef cd sd K)) := by
  -- restated with `noHashCallees`, which is what `hashCallee` unfolds to (the theorem spells it `fun _ => none`)
  have h : Gen.CodeHash.reconnectProof.run C noHashCallees [.bytes u.asRef, .bytes cd, .bytes sd, .bytes K] = some (calculateReconnectProof C u.asRef cd sd K) :=
    C05_translated_reconnect_proof C u.asRef cd sd K
  simp [hashCallee, toHashVals, toHashVal, h, bind, Option.bind]

theorem C05_linked_verify_reconnection_attempt (C : Crypto) (be : Backend) (s : SrpServer) (cd proof draw : Bytes) (rest : List Bytes) :
    Gen.CodeApi.verifyReconnectionAttempt.run (reconnectLinkedPrims C be) (selfServer s) [.bytes cd, .bytes proof] (draw :: rest)
      = some (.ok (.bool (s.verifyReconnectionAttempt C cd proof draw).1, selfServer (s.verifyReconnectionAttempt C cd proof draw).2, rest)) := by
  apply verifyReconnectionAttempt_run; simp [Prims.call, reconnectLinkedPrims, hashCallee_reconnect_proof]

theorem C05_linked_calculate_reconnect_values (C : Crypto) (be : Backend) (c : SrpClient) (sd draw : Bytes) (rest : List Bytes) :
    Gen.CodeApi.calculateReconnectValues.run (reconnectLinkedPrims C be) (selfClient c) [.bytes sd] (draw :: rest)
      = some (.ok (.struct "SrpClientReconnection"
          [("challenge_data", .bytes (c.calculateReconnectValues C sd draw).1), ("proof", .bytes (c.calculateReconnectValues C sd draw).2)],
          selfClient c, rest)) := by
  apply calculateReconnectValues_run; simp [Prims.call, reconnectLinkedPrims, hashCallee_reconnect_proof]

#print axioms C05_linked_verify_reconnection_attempt
#print axioms C05_linked_calculate_reconnect_values
end WowSrp
