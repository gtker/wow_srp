/-
Translator leg: thin wrappers that the model defines as plain delegation.
`HeaderCrypto::{encrypt, write_encrypted_*, encrypt_*_header, decrypt, read_and_decrypt_*, decrypt_*_header, split}` (Vanilla, TBC) and the
`ClientCrypto` / `ServerCrypto` facades (Wrath) are modelled as "call the half the object owns, put it back" (Model/Header.lean, Model/Wrath.lean,
`HObj.step`). tools/gen_constants.py lists the body of each of these methods (whitespace removed) on every run; the obligations say that the bodies
are the delegations the model assumes (Vanilla's `decrypt_client_header` is the one method that rebuilds the header by hand, and is modelled so).
-/
import WowSrp.Gen.Facts
namespace WowSrp

def expected_facadeBodiesVanilla : List (List String) := [["encrypt: {self.encrypt.encrypt(data);}", "write_encrypted_server_header: {self.encrypt.write_encrypted_server_header(write,size,opcode)}", "write_encrypted_client_header: {self.encrypt.write_encrypted_client_header(write,size,opcode)}", "encrypt_server_header: {self.encrypt.encrypt_server_header(size,opcode)}", "encrypt_client_header: {self.encrypt.encrypt_client_header(size,opcode)}", "decrypt: {self.decrypt.decrypt(data);}", "read_and_decrypt_server_header: {self.decrypt.read_and_decrypt_server_header(reader)}", "read_and_decrypt_client_header: {self.decrypt.read_and_decrypt_client_header(reader)}", "decrypt_server_header: {self.decrypt.decrypt_server_header(data)}", "decrypt_client_header: {self.decrypt(&mutdata);letsize:u16=u16::from_be_bytes([data[0],data[1]]);letopcode:u32=u32::from_le_bytes([data[2],data[3],data[4],data[5]]);ClientHeader{size,opcode}}", "split: {(self.encrypt,self.decrypt)}"]]
def expected_facadeBodiesTbc : List (List String) := [["encrypt: {self.encrypt.encrypt(data);}", "write_encrypted_server_header: {self.encrypt.write_encrypted_server_header(write,size,opcode)}", "write_encrypted_client_header: {self.encrypt.write_encrypted_client_header(write,size,opcode)}", "encrypt_server_header: {self.encrypt.encrypt_server_header(size,opcode)}", "encrypt_client_header: {self.encrypt.encrypt_client_header(size,opcode)}", "decrypt: {self.decrypt.decrypt(data);}", "read_and_decrypt_server_header: {self.decrypt.read_and_decrypt_server_header(reader)}", "read_and_decrypt_client_header: {self.decrypt.read_and_decrypt_client_header(reader)}", "decrypt_server_header: {self.decrypt.decrypt_server_header(data)}", "decrypt_client_header: {self.decrypt.decrypt_client_header(data)}", "split: {(self.encrypt,self.decrypt)}"]]
def expected_facadeBodiesWrathClient : List (List String) := [["encrypt: {self.encrypt.encrypt(data);}", "write_encrypted_client_header: {self.encrypt.write_encrypted_client_header(write,size,opcode)}", "encrypt_client_header: {self.encrypt.encrypt_client_header(size,opcode)}", "decrypt: {self.decrypt.decrypt(data);}", "attempt_decrypt_server_header: {self.decrypt.attempt_decrypt_server_header(buf)}", "decrypt_large_server_header: {self.decrypt.decrypt_large_server_header(byte)}", "read_and_decrypt_server_header: {self.decrypt.read_and_decrypt_server_header(reader)}", "split: {(self.encrypt,self.decrypt)}"]]
def expected_facadeBodiesWrathServer : List (List String) := [["encrypt: {self.encrypt.encrypt(data);}", "write_encrypted_server_header: {self.encrypt.write_encrypted_server_header(write,size,opcode)}", "encrypt_server_header: {self.encrypt.encrypt_server_header(size,opcode)}", "decrypt: {self.decrypt.decrypt(data);}", "read_and_decrypt_client_header: {self.decrypt.read_and_decrypt_client_header(reader)}", "decrypt_client_header: {self.decrypt(&mutdata);ClientHeader::from_array(data)}", "split: {(self.encrypt,self.decrypt)}"]]

/-- C11 / C12 / C14: every facade method of the three expansions is the delegation to its half that the model (and `HObj.step`) assumes -/
theorem C11_source_facade_delegates :
    Gen.facadeBodiesVanilla = expected_facadeBodiesVanilla ∧ Gen.facadeBodiesTbc = expected_facadeBodiesTbc ∧
    Gen.facadeBodiesWrathClient = expected_facadeBodiesWrathClient ∧ Gen.facadeBodiesWrathServer = expected_facadeBodiesWrathServer :=
  ⟨rfl, rfl, rfl, rfl⟩
theorem C12_source_facade_delegates :
    Gen.facadeBodiesVanilla = expected_facadeBodiesVanilla ∧ Gen.facadeBodiesTbc = expected_facadeBodiesTbc ∧
    Gen.facadeBodiesWrathClient = expected_facadeBodiesWrathClient ∧ Gen.facadeBodiesWrathServer = expected_facadeBodiesWrathServer := C11_source_facade_delegates
theorem C14_source_facade_delegates :
    Gen.facadeBodiesVanilla = expected_facadeBodiesVanilla ∧ Gen.facadeBodiesTbc = expected_facadeBodiesTbc ∧
    Gen.facadeBodiesWrathClient = expected_facadeBodiesWrathClient ∧ Gen.facadeBodiesWrathServer = expected_facadeBodiesWrathServer := C11_source_facade_delegates

end WowSrp
