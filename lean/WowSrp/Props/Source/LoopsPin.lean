/-
C16, the loops of src/pin.rs as translated from the working tree (`Gen/CodeImp.lean`, regenerated on every run) against the model
(`Model/Pin.lean`): for every input the translated `pin_to_bytes` and `remap_pin_grid` give what `pinToBytes` / `remapPinGrid` give, up to
the text of a panic message.

Structure: `pin_while` is stated for ANY loop condition and body that do one round of the model's recursion on states of the right shape; the
`for` loops go through `Sim.loopUp` / `Sim.loopDown` (`Lemmas/MiniImp.lean`), the inner copy loop against `shiftLoop` (`pinShift_eq`).  The
final theorems unfold the generated terms, walk down their statements with the `Sim` rules, and say what each translated expression evaluates
to by an `Evals` term (slots by `Env.Has.set` / `.self`).
-/
import WowSrp.Gen.CodeImp
import WowSrp.Lemmas.Select
import WowSrp.Lemmas.MiniImp
namespace WowSrp
open MiniImp

theorem pinDigitsRev_succ (fuel p : Nat) :
    pinDigitsRev (fuel + 1) p = if p = 0 then [] else UInt8.ofNat (p % 10) :: pinDigitsRev fuel (p / 10) := rfl

theorem pinDigitsRev_fuel (fuel : Nat) : ∀ p, p < 10 ^ fuel → pinDigitsRev (fuel + 1) p = pinDigitsRev fuel p := by
  induction fuel with
  | zero => intro p h; have : p = 0 := by omega
            subst this; rfl
  | succ n ih =>
    intro p h
    rw [pinDigitsRev_succ (n + 1) p, pinDigitsRev_succ n p, ih (p / 10) (by rw [Nat.pow_succ] at h; omega)]

/-- the `while pin != 0` loop from a state `pin, i = |pre|`, array `pre ++ rest`, for any condition and body that behave on such states
    as the translated ones do -/
theorem pin_while (c : Env → Out Bool) (f : Env → Out Env)
    (hc : ∀ p i a, c ⟨[p, i], [a]⟩ = .ok (decide (p ≠ 0)))
    (hf : ∀ p i a, a.length < 2 ^ 64 → f ⟨[p, i], [a]⟩
      = if i < a.length then .ok ⟨[p / 10, i + 1], [a.set i (UInt8.ofNat (p % 10))]⟩ else .panic "index out of bounds")
    (fuel : Nat) : ∀ (p : Nat) (pre rest : Bytes), p < 10 ^ fuel → pre.length + rest.length < 2 ^ 64 →
    Sim (fun e (d : Bytes) => e = ⟨[0, pre.length + d.length], [pre ++ d ++ rest.drop d.length]⟩ ∧ d.length ≤ rest.length)
      (loopWhile c f (fuel + 1) ⟨[p, pre.length], [pre ++ rest]⟩)
      (if (pinDigitsRev fuel p).length ≤ rest.length then .ok (pinDigitsRev fuel p) else .panic "") := by
  induction fuel with
  | zero =>
    intro p pre rest h hlen
    have : p = 0 := by omega
    subst this
    rw [loopWhile_false _ _ _ _ (by rw [hc]; rfl)]
    simp [pinDigitsRev]
  | succ n ih =>
    intro p pre rest h hlen
    rw [pinDigitsRev_succ]
    by_cases h0 : p = 0
    · subst h0
      rw [loopWhile_false _ _ _ _ (by rw [hc]; rfl)]
      simp
    · have hcp : c ⟨[p, pre.length], [pre ++ rest]⟩ = .ok true := by rw [hc]; simp [h0]
      simp only [h0, if_false]
      cases rest with
      | nil =>
        have hfp : f ⟨[p, pre.length], [pre ++ []]⟩ = .panic "index out of bounds" := by
          rw [hf _ _ _ (by simpa using hlen)]; simp
        rw [loopWhile_true_panic _ _ _ _ _ hcp hfp]
        simp
      | cons r rest =>
        have hfp : f ⟨[p, pre.length], [pre ++ r :: rest]⟩
            = .ok ⟨[p / 10, pre.length + 1], [pre ++ UInt8.ofNat (p % 10) :: rest]⟩ := by
          rw [hf _ _ _ (by simpa using hlen)]; simp
        rw [loopWhile_true_ok _ _ _ _ _ hcp hfp]
        have := ih (p / 10) (pre ++ [UInt8.ofNat (p % 10)]) rest (by rw [Nat.pow_succ] at h; omega)
          (by simp only [List.length_append, List.length_cons, List.length_nil] at hlen ⊢; omega)
        simp only [List.length_append, List.length_cons, List.length_nil, List.append_assoc, List.cons_append, List.nil_append] at this
        simp only [List.length_cons, Nat.add_le_add_iff_right]
        by_cases hl : (pinDigitsRev n (p / 10)).length ≤ rest.length <;> simp only [hl, if_true, if_false] at this ⊢
        · obtain ⟨e, he, rfl, h2⟩ := this.ok_inv
          rw [he]; exact Sim.ok ⟨by simp [Nat.add_assoc, Nat.add_comm 1], by simpa using h2⟩
        · obtain ⟨q, hq⟩ := this.panic_inv
          rw [hq]; exact Sim.panic

theorem C16_translated_pin_to_bytes (pin : Nat) (hp : pin < 2 ^ 32) (arr : Bytes) (ha : arr.length = 10) :
    MiniImp.forget (Gen.CodeImp.pinToBytes.run [pin] [arr]) = MiniImp.forget (pinToBytes pin) := by
  refine run_forget_of_sim (R := fun e r => Gen.CodeImp.pinToBytes.result.get e = .ok r) ?_ (fun _ _ h => h)
  unfold Gen.CodeImp.pinToBytes
  dsimp only
  refine Sim.seq_ok (e := ⟨[pin, 0], [arr]⟩) (by simp [Stmt.exec, Expr.eval, Env.setVar]) ?_
  apply Sim.seq
  case h1 =>
    rw [Stmt.exec]
    refine pin_while _ _ ?_ ?_ 63 pin [] arr (by omega) (by simp [ha])
    · intro p i a; simp [Expr.eval, Env.getVar]
    · intro p i a hlen
      have h1 : p % 10 % 256 = p % 10 := by omega
      have h2 : ¬ 256 ≤ p % 10 := by omega
      by_cases hi : i < a.length
      · have h3 : i + 1 < 18446744073709551616 := by omega
        simp [Stmt.exec, Expr.eval, Env.getVar, Env.getArr, Env.setVar, Env.setArr, h1, h2, hi, h3]
      · simp [Stmt.exec, Expr.eval, Env.getVar, Env.getArr, Env.setArr, h1, h2, hi]
  · intro e d hd ⟨he, hl⟩
    subst he
    have hd2 : pinDigitsRev 64 pin = d := by
      rw [pinDigitsRev_fuel 63 pin (by omega)]
      split at hd
      · exact Out.ok.inj hd
      · exact absurd hd (by simp)
    simp [pinToBytes, hd2, Gen.maxPinLength, ha ▸ hl, Stmt.exec, Expr.eval, Env.getVar, Env.getArr, Env.setArr, Result.get]
  · intro q hq
    rw [pinToBytes, pinDigitsRev_fuel 63 pin (by omega)]
    split at hq
    · exact absurd hq (by simp)
    · rename_i hn
      simp only [ha] at hn
      simp [Gen.maxPinLength, hn]

/-- one round of the outer loop of `remap_pin_grid`, as the model does it, on (grid, seed, remapped so far) -/
def remapStep (x : Nat) : Bytes × Nat × Bytes → Out (Bytes × Nat × Bytes)
  | (grid, seed, out) => match grid[seed % x]? with
    | none => .panic "pin.rs:123 index out of bounds"
    | some v => pinShift grid (seed % x) (x - seed % x - 1) 0 >>= fun g => .ok (g, seed / x, out ++ [v])

theorem remapLoop_succ (i : Nat) (a : Bytes × Nat × Bytes) :
    remapLoop (i + 1) a.1 a.2.1 a.2.2 = (remapStep (i + 1) a >>= fun b => remapLoop i b.1 b.2.1 b.2.2) := by
  obtain ⟨grid, seed, out⟩ := a
  rw [remapLoop, remapStep]
  cases grid[seed % (i + 1)]? with
  | none => rfl
  | some v => dsimp only; cases pinShift grid (seed % (i + 1)) (i + 1 - seed % (i + 1) - 1) 0 <;> rfl

set_option linter.unusedVariables false in
/-- (holds for every `seed`; the hypothesis is the Rust type of the parameter) -/
theorem C16_translated_remap_pin_grid (seed : Nat) (hs : seed < 2 ^ 32) :
    MiniImp.forget (Gen.CodeImp.remapPinGrid.run [seed] []) = MiniImp.forget (remapPinGrid seed) := by
  refine run_forget_of_sim (R := fun e r => e.arrs[1]? = some r) ?_ (fun e a h => getArr_of e 1 a h)
  unfold Gen.CodeImp.remapPinGrid
  dsimp only
  refine Sim.seq_ok (e := ⟨[seed], [Gen.pinInitialGrid]⟩) (by simp [Stmt.exec, Env.setArr, Gen.pinInitialGrid]) ?_
  refine Sim.seq_ok (e := ⟨[seed], [Gen.pinInitialGrid, Gen.pinInitialGrid]⟩) (by simp [Stmt.exec, Env.setArr, Env.getArr]) ?_
  rw [exec_forDownEnum (h := 10) .lit .lit]
  -- `remapped_grid` (`A`) is filled front to back: its length stays 10, and its first `k` cells are the model's output so far
  refine Sim.loopDown (M := fun x a => remapLoop x a.1 a.2.1 a.2.2) (step := remapStep)
    (Inv := fun k x e a => e.Has 0 a.2.1 ∧ k + x = 10 ∧ ∃ A, e.arrs = [a.1, A] ∧ A.length = 10 ∧ A.take k = a.2.2)
    remapLoop_succ ?h0 ?hf 10 0 _ (Gen.pinInitialGrid, seed, []) ⟨rfl, rfl, _, rfl, rfl, rfl⟩
  case h0 =>
    rintro k e ⟨grid, seed, out⟩ ⟨_, hk, A, ha, hlen, htake⟩
    -- `x = 0`: all ten cells are filled
    obtain rfl : A = out := (List.take_length (l := A)).symm.trans ((hlen.trans hk.symm) ▸ htake)
    simp [remapLoop, ha]
  case hf =>
    rintro k x e ⟨grid, seed, out⟩ ⟨h0, hk, A, ha, hlen, htake⟩
    dsimp only at h0 ha htake ⊢
    have hk' : k < A.length := by omega
    have hr : seed % (x + 1) < x + 1 := Nat.mod_lt _ (Nat.succ_pos x)
    refine Sim.seq_ok (exec_set (.rem (.var h0.set.set) (.var .self) (Nat.succ_ne_zero x))) ?_
    refine Sim.seq_ok (exec_set (.div (.var h0.set.set.set) (.var (.set .self)) (Nat.succ_ne_zero x))) ?_
    rw [remapStep]
    cases hb : grid[seed % (x + 1)]? with
    | none =>
      refine Sim.seq_panic (p := "index out of bounds") ?_
      simp [Stmt.exec, Expr.eval, Env.getVar, Env.getArr, vars_setVar_get, ha, hb]
    | some b =>
      dsimp only
      refine Sim.seq_ok (exec_store (a := A) (by simp [ha]) (.var (.set (.set (.set .self))))
        (.idx (by simp [ha]) (.var (.set .self)) hb) (UInt8.toNat_lt b) hk') ?_
      rw [UInt8.ofNat_toNat]
      refine Sim.seq_ok (exec_set (.sub (.sub (.var (.setArr (.set (.set .self)))) (.var (.setArr (.set .self))) (Nat.le_of_lt hr)) .lit
        (Nat.sub_pos_of_lt hr))) ?_
      rw [exec_forUp .lit (.var .self), pinShift_eq]
      refine Sim.map (fun g => (g, seed / (x + 1), out ++ [b])) (Sim.loopUp (M := fun c j g => shiftLoop _ g c (seed % (x + 1) + j))
        (Inv := fun _ e1 g => e1.Has 0 (seed / (x + 1)) ∧ e1.Has 3 (seed % (x + 1)) ∧ e1.arrs = [g, A.set k b])
        (x + 1 - seed % (x + 1) - 1) (fun _ _ _ => rfl) (fun _ _ h => Sim.ok h) ?_ _ 0 _ grid (Nat.zero_add _) ?_) ?_
      · intro j e1 g hj ⟨hv0, hv3, hg⟩
        refine (shift_store_sim _ (e := e1.setVar 5 j) (by simp [hg]) (.add (.var hv3.set) (.var .self) (by omega)) (by omega)).mono ?_
        rintro e2 g1 rfl
        exact ⟨hv0.set.setArr, hv3.set.setArr, by simp [arrs_setArr, hg]⟩
      · exact ⟨.set (.setArr .self), .set (.setArr (.set .self)), by simp [arrs_setArr, ha]⟩
      · rintro e1 g ⟨hv0, _, hg⟩
        exact ⟨hv0, by omega, _, hg, (List.length_set ..).trans hlen, by rw [take_set_succ _ _ _ hk', htake]⟩

example : forget (Gen.CodeImp.pinToBytes.run [4294967295] [[9, 8, 7, 6, 5, 4, 3, 2, 1, 255]]) = some [4, 2, 9, 4, 9, 6, 7, 2, 9, 5]
    ∧ forget (pinToBytes 4294967295) = some [4, 2, 9, 4, 9, 6, 7, 2, 9, 5] := by decide +kernel
example : forget (Gen.CodeImp.remapPinGrid.run [123456789] []) = some [9, 0, 7, 3, 5, 4, 1, 2, 6, 8]
    ∧ forget (remapPinGrid 123456789) = some [9, 0, 7, 3, 5, 4, 1, 2, 6, 8] := by decide +kernel
/-- both sides panic: eleven digits do not fit the ten-byte array (not a `u32`, so outside the theorem, but the loop lemma covers it) -/
example : forget (Gen.CodeImp.pinToBytes.run [12345678901] [List.replicate 10 0]) = none
    ∧ forget (pinToBytes 12345678901) = none := by decide +kernel


/-- the parameter and return types of the two functions are the ones the hypotheses above spell out (`pin < 2^32`, a 10-byte array):
    nothing of a signature reaches the translated term, so it is a fact of its own -/
theorem C16_translated_signatures :
    Gen.CodeImp.signaturesPin = ["pin_to_bytes: (u32, &mut[u8;10]) -> &mut[u8]", "remap_pin_grid: (u32) -> [u8;10]"] := rfl

#print axioms C16_translated_signatures

end WowSrp

#print axioms WowSrp.C16_translated_pin_to_bytes
#print axioms WowSrp.C16_translated_remap_pin_grid
