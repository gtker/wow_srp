/-
`Rc4::new` with `Rc4::key_scheduling_algorithm` (src/rc4.rs), translated from the working tree by tools/gen_ksa.py (Gen/CodeKsa.lean),
denotes the model's `Rc4.new` for EVERY key (the empty key included: `cycle()` of nothing yields nothing, the table stays the identity).
Together with `C09_translated_prga` (Props/Source/Rc4Prga.lean) the whole RC4 of the model — which the C09 theorems prove to be textbook
RC4, and which C18 uses for the matrix-card proof — is regenerated from the source on every run.
-/
import WowSrp.Gen.CodeKsa
namespace WowSrp
open MiniKsa

/-- ANY translated program whose parts mean what the model's parts mean denotes `Rc4.new` (the obligation is about the meaning of the
    `j` update, not its text: `self.state[i].wrapping_add(j).wrapping_add(*k)` is proved the same way) -/
theorem ksa_run_eq_of (p : KsaProg) (h0 : p.unsupported = none) (h1 : p.tableLen = 256) (h2 : p.i0 = 0) (h3 : p.j0 = 0)
    (h4 : p.identityInit = true) (h5 : p.rangeLo = 0) (h6 : p.rangeHi = 256) (h7 : p.cycled = true) (h8 : p.jInit = 0)
    (h9 : ∀ j si k, p.jUpdate.eval j si k = j + si + k) (key : Bytes) :
    p.run key = Rc4.new key := by
  have hl : ∀ n i s j, MiniKsa.loop p key n i s j = ksaLoop key n i s j := by
    intro n
    induction n with
    | zero => intro i s j; rfl
    | succ n ih => intro i s j; simp only [MiniKsa.loop, ksaLoop, h5, Nat.sub_zero, h9, ih]; rfl
  simp only [KsaProg.run, Rc4.new, h0, h1, h2, h3, h4, h5, h6, h7, h8, hl, if_true, Nat.sub_zero]
  rfl

theorem C09_translated_ksa (key : Bytes) : Gen.CodeKsa.rc4New.run key = Rc4.new key := by
  apply ksa_run_eq_of <;> first | rfl | (intro j si k; simp only [Gen.CodeKsa.rc4New, KExpr.eval] <;> ac_rfl)

/-- the same obligation under the name of C18, whose verifier uses the same RC4 -/
theorem C18_translated_ksa (key : Bytes) : Gen.CodeKsa.rc4New.run key = Rc4.new key := C09_translated_ksa key

#print axioms C09_translated_ksa

end WowSrp
