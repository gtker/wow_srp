/-
C18, `generate_coordinates` of src/matrix_card.rs as translated from the working tree (`Gen/CodeImp.lean`, regenerated on every run)
against the model (`Model/MatrixCard.lean`): for every input the translated function gives what `generateCoordinates` gives, up to the
text of a panic message (both panic when `width * height` does not fit a `u8`, and when `challenge_count > width * height`).

Structure as in `LoopsPin.lean`: the three loops go through `Sim.loopUp` against `shiftLoop` (`mcShift_eq`), `mcCoordLoop_succ` and "append `i`".
-/
import WowSrp.Gen.CodeImp
import WowSrp.Lemmas.Select
import WowSrp.Lemmas.MiniImp
namespace WowSrp
open MiniImp

/-- one round of the outer loop, as the model does it, on (matrix_indices, seed, coordinates so far) -/
def mcStep (ms i : Nat) : Bytes × Nat × Bytes → Out (Bytes × Nat × Bytes)
  | (idx, seed, out) =>
    if ms < i then .panic "matrix_card.rs:357 subtraction overflow" else
    if ms - i = 0 then .panic "matrix_card.rs:358 remainder by zero" else
    match idx[seed % (ms - i)]? with
    | none => .panic "matrix_card.rs:360 index out of bounds"
    | some v => mcShift idx (ms - i - 1 - seed % (ms - i)) (seed % (ms - i)) >>= fun g => .ok (g, seed / (ms - i), out ++ [v])

theorem mcCoordLoop_succ (ms n i : Nat) (a : Bytes × Nat × Bytes) :
    mcCoordLoop ms (n + 1) i a.1 a.2.1 a.2.2 = (mcStep ms i a >>= fun b => mcCoordLoop ms n (i + 1) b.1 b.2.1 b.2.2) := by
  obtain ⟨idx, seed, out⟩ := a
  rw [mcCoordLoop, mcStep]
  by_cases h1 : ms < i
  · simp only [h1, if_true]; rfl
  by_cases h2 : ms - i = 0
  · simp only [h1, h2, if_true, if_false]; rfl
  simp only [h1, h2, if_false]
  cases idx[seed % (ms - i)]? with
  | none => rfl
  | some v => dsimp only; cases mcShift idx (ms - i - 1 - seed % (ms - i)) (seed % (ms - i)) <;> rfl

set_option linter.unusedVariables false in
/-- (holds for all natural numbers; the hypotheses are the Rust types of the parameters) -/
theorem C18_translated_generate_coordinates (w h c seed : Nat) (hw : w < 256) (hh : h < 256) (hc : c < 256) (hs : seed < 2 ^ 64) :
    MiniImp.forget (Gen.CodeImp.generateCoordinates.run [w, h, c, seed] []) = MiniImp.forget (generateCoordinates w h c seed) := by
  refine run_forget_of_sim (R := fun e r => e.arrs[0]? = some r) ?_ (fun e a h => getArr_of e 0 a h)
  unfold Gen.CodeImp.generateCoordinates
  dsimp only
  refine Sim.seq_ok (exec_arrNew (.var rfl)) ?_
  rw [generateCoordinates]
  by_cases hm : w * h < 256
  · rw [if_neg (by omega)]
    refine Sim.seq_ok (exec_set (.mul (.var rfl) (.var rfl) hm)) ?_
    refine Sim.seq_ok (exec_arrNew (.var .self)) ?_
    generalize w * h = ms at hm ⊢
    refine Sim.seq (Q := fun e r => e.Has 2 c ∧ e.Has 3 seed ∧ e.Has 4 ms ∧ e.arrs = [List.replicate c 0, r])
      (m1 := .ok ((List.range ms).map UInt8.ofNat)) ?_ ?_ (fun _ h => nomatch h)
    · -- `for i in 1..matrix_size { matrix_indices[i] = i }`: against the model "append `i`"
      rw [exec_forUp .lit (.var (.setArr .self))]
      cases ms with
      | zero => exact Sim.ok (by simp [Env.Has, vars_setVar_get, Env.setArr])
      | succ m =>
        rw [show (List.range (m + 1)).map UInt8.ofNat = [0] ++ (List.range' 1 (m + 1 - 1)).map UInt8.ofNat by
          simp [List.range_eq_range', List.range'_succ]]
        -- an array `A` that a loop fills front to back: its length stays, its first `j` cells are the model's value (`take_set_succ`)
        refine Sim.loopUp (α := Bytes)
          (M := fun n j pre => .ok (pre ++ (List.range' j n).map UInt8.ofNat)) (step := fun j pre => .ok (pre ++ [UInt8.ofNat j]))
          (Inv := fun j e pre => e.Has 2 c ∧ e.Has 3 seed ∧ e.Has 4 (m + 1)
            ∧ ∃ A, e.arrs = [List.replicate c 0, A] ∧ A.length = m + 1 ∧ A.take j = pre)
          (m + 1) (fun n j pre => by simp [List.range'_succ]) ?_ ?_ (m + 1 - 1) 1 _ [0] (by omega) ?_
        · rintro e pre ⟨h2, h3, h4, A, ha, hlen, htake⟩
          obtain rfl : A = pre := (List.take_length (l := A)).symm.trans (hlen ▸ htake)
          exact Sim.ok ⟨h2, h3, h4, by simpa using ha⟩
        · rintro j e pre hj ⟨h2, h3, h4, A, ha, hlen, htake⟩
          have hj' : j < A.length := hlen ▸ hj
          rw [exec_store (a := A) (by simp [ha]) (.var .self) (.var .self) (by omega) hj']
          exact Sim.ok ⟨h2.set.setArr, h3.set.setArr, h4.set.setArr, A.set j (UInt8.ofNat j), by simp [arrs_setArr, ha],
            (List.length_set ..).trans hlen, by rw [take_set_succ _ _ _ hj', htake]⟩
        · exact ⟨.setArr (.set rfl), .setArr (.set rfl), .setArr .self, _, rfl, List.length_replicate, rfl⟩
    · rintro e _ ⟨⟩ ⟨h2, h3, h4, ha⟩
      rw [exec_forUp .lit (.var h2)]
      refine Sim.loopUp (M := fun n i a => mcCoordLoop ms n i a.1 a.2.1 a.2.2) (step := mcStep ms)
        (Inv := fun i e a => e.Has 3 a.2.1 ∧ e.Has 4 ms ∧ ∃ A, e.arrs = [A, a.1] ∧ A.length = c ∧ A.take i = a.2.2)
        c (mcCoordLoop_succ ms) ?_ ?_ (c - 0) 0 e ((List.range ms).map UInt8.ofNat, seed, []) (by omega)
        ⟨h3, h4, _, ha, List.length_replicate, rfl⟩
      · rintro e ⟨idx, seed, out⟩ ⟨_, _, A, ha, hlen, htake⟩
        obtain rfl : A = out := (List.take_length (l := A)).symm.trans (hlen ▸ htake)
        simp [mcCoordLoop, ha]
      clear h2 h3 h4 ha e hs seed
      rintro i e ⟨idx, seed, out⟩ hi ⟨h3, h4, A, ha, hlen, htake⟩
      dsimp only at h3 ha htake ⊢
      rw [mcStep]
      by_cases h1 : ms < i
      · rw [if_pos h1]
        refine Sim.seq_panic (p := "attempt to subtract with overflow") ?_
        simp [Stmt.exec, Expr.eval, Env.getVar, vars_setVar_get, h4, Nat.not_le.2 h1]
      · rw [if_neg h1]
        refine Sim.seq_ok (exec_set (.sub (.var h4.set) (.var .self) (Nat.le_of_not_lt h1))) ?_
        by_cases hz : ms - i = 0
        · rw [if_pos hz]
          refine Sim.seq_panic (p := "attempt to calculate the remainder with a divisor of zero") ?_
          simp [Stmt.exec, Expr.eval, Env.getVar, vars_setVar_get, h3, hz]
        · rw [if_neg hz]
          refine Sim.seq_ok (exec_set (.rem (.var h3.set.set) (.var .self) hz)) ?_
          have hidx : seed % (ms - i) < ms - i := Nat.mod_lt _ (Nat.pos_of_ne_zero hz)
          cases hb : idx[seed % (ms - i)]? with
          | none =>
            refine Sim.seq_panic (p := "index out of bounds") ?_
            simp [Stmt.exec, Expr.eval, Env.getVar, Env.getArr, vars_setVar_get, ha, hb]
          | some b =>
            dsimp only
            have hi' : i < A.length := hlen ▸ hi
            refine Sim.seq_ok (exec_store (a := A) (by simp [ha]) (.var (.set (.set .self)))
              (.idx (by simp [ha]) (.var .self) hb) (UInt8.toNat_lt b) hi') ?_
            rw [UInt8.ofNat_toNat]
            refine Sim.seq_bind (Q := fun e1 g => e1.Has 3 seed ∧ e1.Has 4 ms
              ∧ e1.Has 7 (ms - i) ∧ e1.arrs = [A.set i b, g]) ?_ ?_
            · rw [exec_forUp (.var (.setArr .self)) (.sub (.var (.setArr (.set .self))) .lit (Nat.pos_of_ne_zero hz)), mcShift_eq]
              refine Sim.loopUp (M := fun c j g => shiftLoop _ g c j) (Inv := fun _ e1 g => e1.Has 3 seed ∧ e1.Has 4 ms
                ∧ e1.Has 7 (ms - i) ∧ e1.arrs = [A.set i b, g])
                (ms - i - 1) (fun _ _ _ => rfl) (fun _ _ h => Sim.ok h) ?_ _ _ _ idx
                (Nat.add_sub_cancel' (Nat.le_sub_one_of_lt hidx)) ?_
              · intro j e1 g hj ⟨hv3, hv4, hv7, hg⟩
                refine (shift_store_sim _ (e := e1.setVar 9 j) (by simp [hg]) (.var .self) (by omega)).mono ?_
                rintro e2 g1 rfl
                exact ⟨hv3.set.setArr, hv4.set.setArr, hv7.set.setArr, by simp [arrs_setArr, hg]⟩
              · exact ⟨h3.set.set.set.setArr, h4.set.set.set.setArr, .setArr (.set .self), by simp [arrs_setArr, ha]⟩
            · intro e1 g ⟨hv3, hv4, hv7, hg⟩
              rw [exec_set (.div (.var hv3) (.var hv7) hz)]
              exact Sim.ok ⟨.self, hv4.set, _, hg, (List.length_set ..).trans hlen, by rw [take_set_succ _ _ _ hi', htake]⟩
  · rw [if_pos (by omega)]
    refine Sim.seq_panic (p := "attempt to multiply with overflow") ?_
    simp [Stmt.exec, Expr.eval, Env.getVar, hm]

/-- a 4×3 card, 5 rounds -/
example : forget (Gen.CodeImp.generateCoordinates.run [4, 3, 5, 987654321987] []) = some [3, 0, 4, 9, 8]
    ∧ forget (generateCoordinates 4 3 5 987654321987) = some [3, 0, 4, 9, 8] := by decide +kernel
/-- both sides panic: more rounds than cells (remainder by zero in round 13) -/
example : forget (Gen.CodeImp.generateCoordinates.run [4, 3, 13, 987654321987] []) = none
    ∧ forget (generateCoordinates 4 3 13 987654321987) = none := by decide +kernel
/-- both sides panic: `16 * 16` does not fit a `u8` -/
example : forget (Gen.CodeImp.generateCoordinates.run [16, 16, 1, 7] []) = none
    ∧ forget (generateCoordinates 16 16 1 7) = none := by decide +kernel

end WowSrp

#print axioms WowSrp.C18_translated_generate_coordinates
