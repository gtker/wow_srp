/-
Translator leg: the SHAPE of the functions of rc4.rs.  For every function tools/gen_constants.py lists, on every run, the ordered calls, the
control-flow keywords (with `?`) and the comparison / boolean operators — not the text (locals may be renamed, expressions reformatted),
but enough that the order of two calls, a branch or the sense of a comparison cannot silently become something else.  The model functions
were written against exactly these shapes.  (Written by tools/mk_shape_modules.py.)
-/
import WowSrp.Gen.Facts
namespace WowSrp

def expected_shapeRc4 : List (List String) := [["new: calls=key_scheduling_algorithm; control=; ops=", "apply_keystream: calls=pseudo_random_generation; control=for; ops=", "key_scheduling_algorithm: calls=iter_mut,enumerate,for_each,iter,cycle,zip,for_each,wrapping_add,wrapping_add,swap,into; control=; ops=", "pseudo_random_generation: calls=wrapping_add,wrapping_add,s_i,swap,into,into,s_i,wrapping_add,s_j,into; control=; ops=", "s_i: calls=; control=; ops=", "s_j: calls=; control=; ops="]]

theorem shapeRc4_ok : Gen.shapeRc4 = expected_shapeRc4 := rfl

end WowSrp
