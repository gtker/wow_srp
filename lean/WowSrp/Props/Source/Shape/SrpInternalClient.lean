/-
Translator leg: the SHAPE of the functions of srp_internal_client.rs.  For every function tools/gen_constants.py lists, on every run, the ordered calls, the
control-flow keywords (with `?`) and the comparison / boolean operators — not the text (locals may be renamed, expressions reformatted),
but enough that the order of two calls, a branch or the sense of a comparison cannot silently become something else.  The model functions
were written against exactly these shapes.  (Written by tools/mk_shape_modules.py.)
-/
import WowSrp.Gen.Facts
namespace WowSrp

def expected_shapeSrpInternalClient : List (List String) := [["calculate_client_public_key: calls=to_bigint,modpow,as_bigint,to_bigint,PublicKey::client_try_from_bigint; control=; ops=", "calculate_client_S: calls=KValue::bigint,as_bigint,to_bigint,modpow,as_bigint,to_bigint,modpow,as_bigint,as_bigint,as_bigint,to_bigint,SKey::from_le_bytes,to_padded_32_byte_array_le; control=; ops=", "calculate_client_proof_with_custom_value: calls=calculate_xor_hash,Sha1::new,chain_update,as_ref,finalize,Sha1::new,chain_update,as_le_bytes,chain_update,chain_update,as_le_bytes,chain_update,as_le_bytes,chain_update,as_le_bytes,chain_update,as_le_bytes,finalize,into,Proof::from_le_bytes; control=; ops="]]

theorem shapeSrpInternalClient_ok : Gen.shapeSrpInternalClient = expected_shapeSrpInternalClient := rfl

end WowSrp
