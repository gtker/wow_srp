/-
Translator leg: the SHAPE of the functions of normalized_string.rs.  For every function tools/gen_constants.py lists, on every run, the ordered calls, the
control-flow keywords (with `?`) and the comparison / boolean operators — not the text (locals may be renamed, expressions reformatted),
but enough that the order of two calls, a branch or the sense of a comparison cannot silently become something else.  The model functions
were written against exactly these shapes.  (Written by tools/mk_shape_modules.py.)
-/
import WowSrp.Gen.Facts
namespace WowSrp

def expected_shapeNStr : List (List String) := [["new: calls=inner,len,is_empty,chars,enumerate,is_ascii,is_ascii_control,NormalizedStringError::CharacterNotAllowed,to_ascii_uppercase,len,inner,as_ref; control=if,return,for,if,return; ops=<,>,>,||,||", "inner: calls=len,is_empty,chars,enumerate,is_ascii,is_ascii_control,NormalizedStringError::CharacterNotAllowed,to_ascii_uppercase,len; control=if,return,for,if,return; ops=>,||,||", "from_str: calls=Self::new; control=; ops=", "from_string: calls=Self::new,into; control=; ops=", "try_from: calls=Self::new; control=; ops=", "try_from: calls=Self::new; control=; ops=", "fmt: calls=write_str,as_ref; control=; ops=", "as_ref: calls=core::str::from_utf8,unwrap; control=; ops="]]

theorem shapeNStr_ok : Gen.shapeNStr = expected_shapeNStr := rfl

end WowSrp
