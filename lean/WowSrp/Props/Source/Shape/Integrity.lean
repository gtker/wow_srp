/-
Translator leg: the SHAPE of the functions of integrity.rs.  For every function tools/gen_constants.py lists, on every run, the ordered calls, the
control-flow keywords (with `?`) and the comparison / boolean operators — not the text (locals may be renamed, expressions reformatted),
but enough that the order of two calls, a branch or the sense of a comparison cannot silently become something else.  The model functions
were written against exactly these shapes.  (Written by tools/mk_shape_modules.py.)
-/
import WowSrp.Gen.Facts
namespace WowSrp

def expected_shapeIntegrity : List (List String) := [["get_salt_value: calls=thread_rng,fill_bytes; control=; ops=", "login_integrity_check_generic: calls=new_from_slice,unwrap,update,finalize_fixed,into,finalise; control=; ops=<,>", "login_integrity_check_windows: calls=checksum,finalise; control=; ops=", "login_integrity_check_mac: calls=new_from_slice,unwrap,update,update,update,update,update,finalize_fixed,into,finalise; control=; ops=<,>", "reconnect_integrity_check: calls=finalise; control=; ops=", "checksum: calls=new_from_slice,unwrap,update,update,update,update,update,finalize_fixed,into; control=; ops=<,>", "finalise: calls=Sha1::new,chain_update,chain_update,finalize_fixed,into; control=; ops="]]

theorem shapeIntegrity_ok : Gen.shapeIntegrity = expected_shapeIntegrity := rfl

end WowSrp
