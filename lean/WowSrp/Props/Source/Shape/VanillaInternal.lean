/-
Translator leg: the SHAPE of the functions of vanilla_header/internal.rs.  For every function tools/gen_constants.py lists, on every run, the ordered calls, the
control-flow keywords (with `?`) and the comparison / boolean operators — not the text (locals may be renamed, expressions reformatted),
but enough that the order of two calls, a branch or the sense of a comparison cannot silently become something else.  The model functions
were written against exactly these shapes.  (Written by tools/mk_shape_modules.py.)
-/
import WowSrp.Gen.Facts
namespace WowSrp

def expected_shapeVanillaInternal : List (List String) := [["calculate_world_server_proof: calls=Sha1::new,chain_update,as_ref,chain_update,to_le_bytes,chain_update,to_le_bytes,chain_update,to_le_bytes,chain_update,as_le_bytes,finalize,into,Proof::from_le_bytes; control=; ops="]]

theorem shapeVanillaInternal_ok : Gen.shapeVanillaInternal = expected_shapeVanillaInternal := rfl

end WowSrp
