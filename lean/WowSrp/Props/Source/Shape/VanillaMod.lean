/-
Translator leg: the SHAPE of the functions of vanilla_header/mod.rs.  For every function tools/gen_constants.py lists, on every run, the ordered calls, the
control-flow keywords (with `?`) and the comparison / boolean operators — not the text (locals may be renamed, expressions reformatted),
but enough that the order of two calls, a branch or the sense of a comparison cannot silently become something else.  The model functions
were written against exactly these shapes.  (Written by tools/mk_shape_modules.py.)
-/
import WowSrp.Gen.Facts
namespace WowSrp

def expected_shapeVanillaMod : List (List String) := [["from_array: calls=u16::from_be_bytes,u16::from_le_bytes; control=; ops=", "from_array: calls=u16::from_be_bytes,u32::from_le_bytes; control=; ops=", "decrypter: calls=; control=; ops=", "encrypter: calls=; control=; ops=", "encrypt: calls=encrypt; control=; ops=", "write_encrypted_server_header: calls=write_encrypted_server_header; control=; ops=", "write_encrypted_client_header: calls=write_encrypted_client_header; control=; ops=", "encrypt_server_header: calls=encrypt_server_header; control=; ops=", "encrypt_client_header: calls=encrypt_client_header; control=; ops=", "decrypt: calls=decrypt; control=; ops=", "read_and_decrypt_server_header: calls=read_and_decrypt_server_header; control=; ops=", "read_and_decrypt_client_header: calls=read_and_decrypt_client_header; control=; ops=", "decrypt_server_header: calls=decrypt_server_header; control=; ops=", "decrypt_client_header: calls=decrypt,u16::from_be_bytes,u32::from_le_bytes; control=; ops=", "split: calls=; control=; ops=", "new: calls=DecrypterHalf::new,EncrypterHalf::new; control=; ops=", "new: calls=Self::default; control=; ops=", "from_specific_seed: calls=; control=; ops=", "seed: calls=; control=; ops=", "into_client_header_crypto: calls=calculate_world_server_proof,SessionKey::from_le_bytes,HeaderCrypto::new,as_le_bytes; control=; ops=", "into_server_header_crypto: calls=calculate_world_server_proof,SessionKey::from_le_bytes,Proof::from_le_bytes,as_le_bytes,HeaderCrypto::new; control=if,return; ops=!=", "default: calls=thread_rng,next_u32; control=; ops="]]

theorem shapeVanillaMod_ok : Gen.shapeVanillaMod = expected_shapeVanillaMod := rfl

end WowSrp
