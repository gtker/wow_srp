/-
Translator leg: the SHAPE of the functions of client.rs.  For every function tools/gen_constants.py lists, on every run, the ordered calls, the
control-flow keywords (with `?`) and the comparison / boolean operators — not the text (locals may be renamed, expressions reformatted),
but enough that the order of two calls, a branch or the sense of a comparison cannot silently become something else.  The model functions
were written against exactly these shapes.  (Written by tools/mk_shape_modules.py.)
-/
import WowSrp.Gen.Facts
namespace WowSrp

def expected_shapeClient : List (List String) := [["session_key: calls=as_le_bytes; control=; ops=", "calculate_reconnect_values: calls=ReconnectData::randomized,calculate_reconnect_proof,ReconnectData::from_le_bytes,as_le_bytes,as_le_bytes; control=; ops=", "new: calls=PrivateKey::randomized,Generator::from,LargeSafePrime::from_le_bytes,srp_internal_client::calculate_client_public_key,expect,Salt::from_le_bytes,srp_internal::calculate_x,calculate_u,allow,calculate_client_S,calculate_interleaved,calculate_client_proof_with_custom_value; control=; ops=", "client_proof: calls=as_le_bytes; control=; ops=", "client_public_key: calls=as_le_bytes; control=; ops=", "verify_server_proof: calls=calculate_server_proof,Proof::from_le_bytes,as_le_bytes,as_le_bytes; control=if,return; ops=!="]]

theorem shapeClient_ok : Gen.shapeClient = expected_shapeClient := rfl

end WowSrp
