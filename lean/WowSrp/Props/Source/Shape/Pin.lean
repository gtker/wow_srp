/-
Translator leg: the SHAPE of the functions of pin.rs.  For every function tools/gen_constants.py lists, on every run, the ordered calls, the
control-flow keywords (with `?`) and the comparison / boolean operators — not the text (locals may be renamed, expressions reformatted),
but enough that the order of two calls, a branch or the sense of a comparison cannot silently become something else.  The model functions
were written against exactly these shapes.  (Written by tools/mk_shape_modules.py.)
-/
import WowSrp.Gen.Facts
namespace WowSrp

def expected_shapePin : List (List String) := [["get_pin_grid_seed: calls=random; control=; ops=", "get_pin_salt: calls=thread_rng,fill_bytes; control=; ops=", "verify_client_pin_hash: calls=calculate_hash; control=if,else; ops===", "calculate_hash: calls=pin_to_bytes,len,len,remap_pin_grid,let,iter,enumerate,find,unwrap,Sha1::new,chain_update,chain_update,finalize_fixed,into,Sha1::new,chain_update,chain_update,finalize_fixed,into; control=if,return,for,for; ops=<,||,>,==", "pin_to_bytes: calls=reverse; control=while; ops=!=", "remap_pin_grid: calls=in,rev,enumerate; control=for,for; ops="]]

theorem shapePin_ok : Gen.shapePin = expected_shapePin := rfl

end WowSrp
