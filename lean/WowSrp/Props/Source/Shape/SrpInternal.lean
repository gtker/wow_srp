/-
Translator leg: the SHAPE of the functions of srp_internal.rs.  For every function tools/gen_constants.py lists, on every run, the ordered calls, the
control-flow keywords (with `?`) and the comparison / boolean operators — not the text (locals may be renamed, expressions reformatted),
but enough that the order of two calls, a branch or the sense of a comparison cannot silently become something else.  The model functions
were written against exactly these shapes.  (Written by tools/mk_shape_modules.py.)
-/
import WowSrp.Gen.Facts
namespace WowSrp

def expected_shapeSrpInternal : List (List String) := [["calculate_x: calls=Sha1::new,chain_update,as_ref,chain_update,chain_update,as_ref,finalize,Sha1::new,chain_update,as_le_bytes,chain_update,finalize,Sha1Hash::from_le_bytes,into; control=; ops=", "calculate_password_verifier: calls=calculate_x,as_bigint,Generator::default,to_bigint,LargeSafePrime::default,to_bigint,modpow,to_padded_32_byte_array_le; control=; ops=", "calculate_server_public_key: calls=Generator::default,to_bigint,LargeSafePrime::default,to_bigint,KValue::bigint,as_bigint,modpow,as_bigint,PublicKey::try_from_bigint; control=; ops=", "calculate_u: calls=Sha1::new,chain_update,as_le_bytes,chain_update,as_le_bytes,finalize,Sha1Hash::from_le_bytes,into; control=; ops=", "calculate_S: calls=LargeSafePrime::default,to_bigint,as_bigint,as_bigint,modpow,as_bigint,modpow,as_bigint,into; control=; ops=", "calculate_interleaved: calls=as_equal_slice,iter,step_by,enumerate,Sha1::new,chain_update,len,finalize,iter,skip,step_by,enumerate,Sha1::new,chain_update,len,finalize,iter,zip,iter,enumerate,SessionKey::from_le_bytes; control=for,for,for; ops=", "calculate_session_key: calls=calculate_u,allow,calculate_S,calculate_interleaved; control=; ops=", "calculate_server_proof: calls=Sha1::new,chain_update,as_le_bytes,chain_update,as_le_bytes,chain_update,as_le_bytes,finalize,Proof::from_le_bytes,into; control=; ops=", "calculate_xor_hash: calls=Sha1::new,chain_update,as_le_bytes,finalize,Sha1::new,chain_update,as_u8,finalize,iter,enumerate,Sha1Hash::from_le_bytes; control=for; ops=", "calculate_client_proof: calls=Sha1::new,chain_update,as_ref,finalize,Sha1::new,chain_update,chain_update,chain_update,as_le_bytes,chain_update,as_le_bytes,chain_update,as_le_bytes,chain_update,as_le_bytes,finalize,into,Proof::from_le_bytes; control=; ops=", "calculate_reconnect_proof: calls=Sha1::new,chain_update,as_ref,chain_update,as_le_bytes,chain_update,as_le_bytes,chain_update,as_le_bytes,finalize,Proof::from_le_bytes,into; control=; ops="]]

theorem shapeSrpInternal_ok : Gen.shapeSrpInternal = expected_shapeSrpInternal := rfl

end WowSrp
