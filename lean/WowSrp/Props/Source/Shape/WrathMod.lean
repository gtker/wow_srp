/-
Translator leg: the SHAPE of the functions of wrath_header/mod.rs.  For every function tools/gen_constants.py lists, on every run, the ordered calls, the
control-flow keywords (with `?`) and the comparison / boolean operators — not the text (locals may be renamed, expressions reformatted),
but enough that the order of two calls, a branch or the sense of a comparison cannot silently become something else.  The model functions
were written against exactly these shapes.  (Written by tools/mk_shape_modules.py.)
-/
import WowSrp.Gen.Facts
namespace WowSrp

def expected_shapeWrathMod : List (List String) := [["from_small_array: calls=u16::from_be_bytes,u16::from_le_bytes; control=; ops=", "from_large_array: calls=clear_large_header,u32::from_be_bytes,u16::from_le_bytes; control=; ops=", "decrypter: calls=; control=; ops=", "encrypter: calls=; control=; ops=", "encrypt: calls=encrypt; control=; ops=", "write_encrypted_client_header: calls=write_encrypted_client_header; control=; ops=", "encrypt_client_header: calls=encrypt_client_header; control=; ops=", "decrypt: calls=decrypt; control=; ops=", "attempt_decrypt_server_header: calls=attempt_decrypt_server_header; control=; ops=", "decrypt_large_server_header: calls=decrypt_large_server_header; control=; ops=", "read_and_decrypt_server_header: calls=read_and_decrypt_server_header; control=; ops=", "new: calls=ClientDecrypterHalf::new,ClientEncrypterHalf::new; control=; ops=", "split: calls=; control=; ops=", "decrypter: calls=; control=; ops=", "encrypter: calls=; control=; ops=", "encrypt: calls=encrypt; control=; ops=", "write_encrypted_server_header: calls=write_encrypted_server_header; control=; ops=", "encrypt_server_header: calls=encrypt_server_header; control=; ops=", "decrypt: calls=decrypt; control=; ops=", "read_and_decrypt_client_header: calls=read_and_decrypt_client_header; control=; ops=", "decrypt_client_header: calls=decrypt,ClientHeader::from_array; control=; ops=", "new: calls=ServerDecrypterHalf::new,ServerEncrypterHalf::new; control=; ops=", "split: calls=; control=; ops=", "new: calls=Self::default; control=; ops=", "from_specific_seed: calls=; control=; ops=", "seed: calls=; control=; ops=", "into_client_header_crypto: calls=calculate_world_server_proof,SessionKey::from_le_bytes,ClientCrypto::new,as_le_bytes; control=; ops=", "into_server_header_crypto: calls=calculate_world_server_proof,SessionKey::from_le_bytes,Proof::from_le_bytes,as_le_bytes,ServerCrypto::new; control=if,return; ops=!=", "default: calls=thread_rng,next_u32; control=; ops="]]

theorem shapeWrathMod_ok : Gen.shapeWrathMod = expected_shapeWrathMod := rfl

end WowSrp
