/-
The six functions of src/integrity.rs, translated from the working tree by tools/gen_hash.py (Gen/CodeHash.lean), denote the model's functions
(Model/Integrity.lean) for EVERY file content, salt and public key and EVERY `Crypto`; parameters in the order of the Rust signatures.  The three
public functions that call `finalise` / `checksum` are run in an environment where those names mean the TRANSLATED `finalise` / `checksum` of the
same file (the translator checks each is defined exactly once there).  All six proofs run the same simp set, whether or not the present term
needs every lemma of it (hence two unused-argument warnings): the terms are regenerated on every run.
-/
import WowSrp.Gen.CodeHash
import WowSrp.Model.Integrity
namespace WowSrp
open MiniHash

theorem C17_translated_finalise (C : Crypto) (seed checksum : Bytes) :
    Gen.CodeHash.integrityFinalise.run C (fun _ => none) [.bytes seed, .bytes checksum] = some (finalise C seed checksum) := by
  simp [Gen.CodeHash.integrityFinalise, HashProg.run, execAll, HStmt.exec, feedAll, HArg.fed, HArg.val, finalise, bind, Option.bind]

theorem C17_translated_checksum (C : Crypto) (seed f1 f2 f3 f4 f5 : Bytes) :
    Gen.CodeHash.integrityChecksum.run C (fun _ => none) [.bytes seed, .bytes f1, .bytes f2, .bytes f3, .bytes f4, .bytes f5]
      = some (integrityChecksum C seed f1 f2 f3 f4 f5) := by
  simp [Gen.CodeHash.integrityChecksum, HashProg.run, execAll, HStmt.exec, feedAll, HArg.fed, HArg.val, integrityChecksum, bind, Option.bind]

def finaliseFn (C : Crypto) : List Val → Option Bytes := fun vs => Gen.CodeHash.integrityFinalise.run C (fun _ => none) vs
def checksumFn (C : Crypto) : List Val → Option Bytes := fun vs => Gen.CodeHash.integrityChecksum.run C (fun _ => none) vs
/-- `finalise` and `checksum` where the public functions call them -/
def integrityCallees (C : Crypto) : Callees := fun n =>
  if n = "finalise" then some (finaliseFn C) else if n = "checksum" then some (checksumFn C) else none

theorem finaliseFn_eq (C : Crypto) (a b : Bytes) : finaliseFn C [.bytes a, .bytes b] = some (finalise C a b) := C17_translated_finalise C a b
theorem checksumFn_eq (C : Crypto) (s f1 f2 f3 f4 f5 : Bytes) :
    checksumFn C [.bytes s, .bytes f1, .bytes f2, .bytes f3, .bytes f4, .bytes f5] = some (integrityChecksum C s f1 f2 f3 f4 f5) :=
  C17_translated_checksum C s f1 f2 f3 f4 f5

/-- `login_integrity_check_generic(all_files, checksum_salt, client_public_key)` -/
theorem C17_translated_generic (C : Crypto) (allFiles salt pk : Bytes) :
    Gen.CodeHash.integrityGeneric.run C (integrityCallees C) [.bytes allFiles, .bytes salt, .bytes pk] = some (integrityGeneric C allFiles salt pk) := by
  simp [Gen.CodeHash.integrityGeneric, HashProg.run, execAll, HStmt.exec, feedAll, valAll, HArg.fed, HArg.val, integrityGeneric, bind, Option.bind,
    integrityCallees, finaliseFn_eq]

/-- `login_integrity_check_windows(wow_exe, fmod_dll, ijl15_dll, dbghelp_dll, unicows_dll, checksum_salt, client_public_key)` -/
theorem C17_translated_windows (C : Crypto) (f1 f2 f3 f4 f5 salt pk : Bytes) :
    Gen.CodeHash.integrityWindows.run C (integrityCallees C) [.bytes f1, .bytes f2, .bytes f3, .bytes f4, .bytes f5, .bytes salt, .bytes pk]
      = some (integrityWindows C f1 f2 f3 f4 f5 salt pk) := by
  simp [Gen.CodeHash.integrityWindows, HashProg.run, execAll, HStmt.exec, feedAll, valAll, HArg.fed, HArg.val, integrityWindows, bind, Option.bind,
    integrityCallees, finaliseFn_eq, checksumFn_eq]

/-- `login_integrity_check_mac(world_of_warcraft, info_plist, objects_xib, wow_icns, pkg_info, checksum_salt, client_public_key)` -/
theorem C17_translated_mac (C : Crypto) (f1 f2 f3 f4 f5 salt pk : Bytes) :
    Gen.CodeHash.integrityMac.run C (integrityCallees C) [.bytes f1, .bytes f2, .bytes f3, .bytes f4, .bytes f5, .bytes salt, .bytes pk]
      = some (integrityMac C f1 f2 f3 f4 f5 salt pk) := by
  simp [Gen.CodeHash.integrityMac, HashProg.run, execAll, HStmt.exec, feedAll, valAll, HArg.fed, HArg.val, integrityMac, bind, Option.bind,
    integrityCallees, finaliseFn_eq]

/-- `reconnect_integrity_check(proof_salt)` -/
theorem C17_translated_reconnect (C : Crypto) (salt : Bytes) :
    Gen.CodeHash.integrityReconnect.run C (integrityCallees C) [.bytes salt] = some (integrityReconnect C salt) := by
  simp [Gen.CodeHash.integrityReconnect, HashProg.run, execAll, HStmt.exec, feedAll, valAll, HArg.fed, HArg.val, integrityReconnect, bind, Option.bind,
    integrityCallees, finaliseFn_eq]

/-- sensitivity: file order matters to the translated term (toy HMAC = key ++ message, toy SHA-1 = identity) -/
example : Gen.CodeHash.integrityWindows.run ⟨id, fun k m => k ++ m, fun _ => []⟩ (integrityCallees ⟨id, fun k m => k ++ m, fun _ => []⟩)
    [.bytes [1], .bytes [2], .bytes [3], .bytes [4], .bytes [5], .bytes [6], .bytes [7]] = some [7, 6, 1, 2, 3, 4, 5] := by decide +kernel

#print axioms C17_translated_finalise
#print axioms C17_translated_checksum
#print axioms C17_translated_generic
#print axioms C17_translated_windows
#print axioms C17_translated_mac
#print axioms C17_translated_reconnect
end WowSrp
