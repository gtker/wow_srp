/-
Translator leg for C05: facts extracted from the Rust source by tools/gen_constants.py on every run: the field order
fed to the hash object of the reconnect proof. A change in the Rust that alters one of them breaks exactly these
obligations, independently of the correspondence run.
-/
import WowSrp.Gen.Facts
namespace WowSrp

/-- C05: reconnect proof = H(U | client data | server data | K) -/
theorem C05_source_layout : Gen.layoutReconnectProof =
    [["username.as_ref()", "client_data.as_le_bytes()", "server_data.as_le_bytes()", "session_key.as_le_bytes()"], ["ctors:Sha1::new", "methods:chain_update,chain_update,chain_update,chain_update,finalize", "control:", "rebound:", "tail:Proof::from_le_bytes(s.into())"]] := rfl

end WowSrp
