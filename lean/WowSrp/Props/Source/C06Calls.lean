/-
Translator leg for C06: the model has ONE world-proof function for Vanilla/TBC (parameterised by expansion) and one for Wrath, each passing
(name, key, server seed, client seed) to the shared hash in this order on the client side and on the server side. The six call sites are listed
from the three modules on every run: a swap of the two seeds (or another argument) in one module alone changes one list.
-/
import WowSrp.Gen.Facts
namespace WowSrp

def expected_worldProofCalls : List (List String) := [["into_client_header_crypto: client_proof=(username,&SessionKey::from_le_bytes(session_key),server_seed,self.seed,)", "into_server_header_crypto: server_proof=(username,&SessionKey::from_le_bytes(session_key),self.seed,client_seed,)"]]

/-- client: (username, key, server_seed, own seed); server: (username, key, own seed, client_seed) — identically in all three modules -/
theorem C06_source_seed_argument_order :
    Gen.worldProofCallsVanilla = expected_worldProofCalls ∧ Gen.worldProofCallsTbc = expected_worldProofCalls ∧
    Gen.worldProofCallsWrath = expected_worldProofCalls := ⟨rfl, rfl, rfl⟩

end WowSrp
