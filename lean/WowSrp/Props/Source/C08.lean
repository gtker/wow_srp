/-
Translator leg for C08: facts extracted from the Rust source by tools/gen_constants.py on every run: how both TBC
halves key themselves. A change in the Rust that alters one of them breaks exactly these obligations, independently of
the correspondence run.
-/
import WowSrp.Gen.Facts
namespace WowSrp

/-- C08: both TBC halves key themselves with HMAC(seed, session key) -/
theorem C08_source_layout : Gen.layoutTbcEncKey = [["key:s.as_slice()", "session_key"], ["ctors:Hmac::new_from_slice", "methods:finalize,into_bytes,update", "control:", "rebound:key", "tail:Self{key,index:0,previous_value:0,}"]] ∧
    Gen.layoutTbcDecKey = [["key:s.as_slice()", "session_key"], ["ctors:Hmac::new_from_slice", "methods:finalize,into_bytes,update", "control:", "rebound:key", "tail:Self{key,index:0,previous_value:0,}"]] := ⟨rfl, rfl⟩

end WowSrp
