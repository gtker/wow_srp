/-
The constructors of `SrpVerifier` with `Self::from_database_values`, `Self::with_specific_salt`, `Self::with_specific_private_key` meaning their
TRANSLATED terms (see Props/Source/ApiLinkBase.lean): `from_username_and_password` and `into_proof` are still the model's functions, so the
argument order at these call sites and the parameter order of the callees, both re-read from the source, fit together.  (`calculate_password_verifier`
and `calculate_server_public_key` keep the meaning given by the table; they are tied by the formula theorems.)
-/
import WowSrp.Props.Source.ApiSetup
import WowSrp.Props.Source.ApiDraws
namespace WowSrp
open MiniApi

/-- a translated associated function without `self` as a callee: arguments positionally, no draws, only the value kept -/
def apiCallee (f : ApiFn) (P : Prims) : List AVal → Out AVal := fun vs =>
  match f.run P [] vs [] with
  | some r => r.bind (fun x => .ok x.1)
  | none => .panic "the translated callee has no meaning on these arguments"

/-- a translated method as a callee of `Self::method(self, args..)`: the first argument is the struct value whose fields are `self` -/
def apiMethodCallee (f : ApiFn) (P : Prims) : List AVal → Out AVal := fun vs =>
  match vs with
  | .struct _ fields :: rest =>
    (match f.run P fields rest [] with
     | some r => r.bind (fun x => .ok x.1)
     | none => .panic "the translated callee has no meaning on these arguments")
  | _ => .panic "the translated callee has no meaning on these arguments"

def ctorPrims0 (C : Crypto) (be : Backend) : Prims := fun n =>
  if n = "Self::from_database_values" then some (apiCallee Gen.CodeApi.fromDatabaseValues (srpPrims C be)) else srpPrims C be n

def ctorPrims (C : Crypto) (be : Backend) : Prims := fun n =>
  if n = "Self::with_specific_salt" then some (apiCallee Gen.CodeApi.withSpecificSalt (ctorPrims0 C be))
  else if n = "Self::with_specific_private_key" then some (apiMethodCallee Gen.CodeApi.withSpecificPrivateKey (srpPrims C be))
  else ctorPrims0 C be n

theorem withSalt_callee (C : Crypto) (be : Backend) (u p : NStr) (salt : Bytes) :
    apiCallee Gen.CodeApi.withSpecificSalt (ctorPrims0 C be) [.nstr u, .nstr p, .bytes salt]
      = (SrpVerifier.fromUsernameAndPassword C be u p salt).bind (fun s => .ok (valVerifier s)) := by
  rw [apiCallee, withSpecificSalt_run (ctorPrims0 C be) C be u p salt]
  · cases SrpVerifier.fromUsernameAndPassword C be u p salt <;> rfl
  all_goals intros; simp [Prims.call, ctorPrims0, srpPrims, apiCallee, fromDatabaseValues_run]

theorem withKey_callee (C : Crypto) (be : Backend) (s : SrpVerifier) (b : Bytes) :
    apiMethodCallee Gen.CodeApi.withSpecificPrivateKey (srpPrims C be) [.struct "SrpVerifier" (selfVerifier s), .bytes b]
      = (s.withSpecificPrivateKey be b).bind (fun r => match r with
          | .error e => .ok (.err (pkErrVal e))
          | .ok p => .ok (.ok (valProof p))) := by
  simp only [apiMethodCallee, C03_translated_with_specific_private_key C be s b]
  rcases s.withSpecificPrivateKey be b with (_ | _) | _ <;> rfl

theorem C15_linked_from_username_and_password (C : Crypto) (be : Backend) (u p : NStr) (salt : Bytes) (rest : List Bytes) :
    Gen.CodeApi.fromUsernameAndPassword.run (ctorPrims C be) [] [.nstr u, .nstr p] (salt :: rest)
      = some ((SrpVerifier.fromUsernameAndPassword C be u p salt).bind (fun s => .ok (valVerifier s, [], rest))) := by
  apply fromUsernameAndPassword_run; simp [Prims.call, ctorPrims, withSalt_callee]

theorem C15_linked_into_proof (C : Crypto) (be : Backend) (s : SrpVerifier) (b : Bytes) (rest : List Bytes) :
    (Gen.CodeApi.intoProof.run (ctorPrims C be) (selfVerifier s) [] (b :: rest)).map outcomeOf
      = some (outcomeOf ((s.intoProof be b).bind (fun p => .ok (valProof p, selfVerifier s, rest)))) := by
  apply intoProof_run; simp [Prims.call, ctorPrims, withKey_callee]; rfl

#print axioms C15_linked_from_username_and_password
#print axioms C15_linked_into_proof
end WowSrp
