/-
The world-login functions `ProofSeed::into_client_header_crypto` / `into_server_header_crypto` of all three expansions
(src/vanilla_header/mod.rs, src/tbc_header/mod.rs, src/wrath_header/mod.rs), translated from the working tree by tools/gen_api.py
(Gen/CodeApi.lean), denote the model's functions (Model/World.lean) for EVERY user name, session key, proof and pair of seeds: which seed
goes where (the object's own seed is the CLIENT seed on the client and the SERVER seed on the server), the comparison, what the refusal
carries, and that the cipher object is built from the session key.  `calculate_world_server_proof` means the model's function (itself
re-derived from the source: `C06_translated_world_proof`).  The cipher constructors are UNINTERPRETED here: `HeaderCrypto::new(K)` /
`ClientCrypto::new(K)` / `ServerCrypto::new(K)` are symbolic values (`cryptoMark`) that name the module whose type it is — the translator
resolves the type to the one DEFINED in the file the function stands in (exactly one item, not imported), so a TBC module that imported
Vanilla's `HeaderCrypto` would not translate — and, for Wrath, carry the model's panic behaviour.  That those constructors are the model's
`HeaderCrypto.new C e K` etc. is the business of the constructor / facade source facts and the key-constructor theorems
(`C08_translated_enc_new`, `C09_translated_inner_new`), not of this file.
-/
import WowSrp.Props.Source.ApiBase
import WowSrp.Lemmas.MiniApi
import WowSrp.Model.World
namespace WowSrp
open MiniApi

def cryptoMark (kind : String) (K : Bytes) : AVal := .struct kind [("session_key", .bytes K)]

def worldPrims (C : Crypto) : Prims := fun n =>
  if n = "calculate_world_server_proof" then some (fun vs => match vs with
    | [.nstr u, .bytes K, .num s, .num c] => .ok (.bytes (calculateWorldServerProof C u.asRef K s c)) | _ => illTyped)
  else if n = "vanilla_header::HeaderCrypto::new" then some (fun vs => match vs with
    | [.bytes K] => .ok (cryptoMark "vanilla_header::HeaderCrypto::new" K) | _ => illTyped)
  else if n = "tbc_header::HeaderCrypto::new" then some (fun vs => match vs with
    | [.bytes K] => .ok (cryptoMark "tbc_header::HeaderCrypto::new" K) | _ => illTyped)
  else if n = "wrath_header::ClientCrypto::new" then some (fun vs => match vs with
    | [.bytes K] => (WClientCrypto.new C K).bind (fun _ => .ok (cryptoMark "wrath_header::ClientCrypto::new" K)) | _ => illTyped)
  else if n = "wrath_header::ServerCrypto::new" then some (fun vs => match vs with
    | [.bytes K] => (WServerCrypto.new C K).bind (fun _ => .ok (cryptoMark "wrath_header::ServerCrypto::new" K)) | _ => illTyped)
  else none

def selfSeed (seed : Nat) : Fields := [("seed", .num seed)]

/-- the constructor the expansion's own module defines (the translator resolves `HeaderCrypto::new` to the `HeaderCrypto` of the file it
    stands in, which must define it and must not import one) -/
def ctorOf : Exp → String
  | .vanilla => "vanilla_header::HeaderCrypto::new"
  | .tbc => "tbc_header::HeaderCrypto::new"

/-- one statement for Vanilla and TBC: each module has its own term and its own constructor (`ctorOf e`), hence the `if e = .vanilla` -/
theorem worldIntoClient_run (P : Prims) (C : Crypto) (e : Exp) (u : NStr) (K : Bytes) (seed serverSeed : Nat)
    (hw : P.call "calculate_world_server_proof" [.nstr u, .bytes K, .num serverSeed, .num seed]
      = some (.ok (.bytes (calculateWorldServerProof C u.asRef K serverSeed seed))))
    (hn : P.call (ctorOf e) [.bytes K] = some (.ok (cryptoMark (ctorOf e) K))) :
    (if e = .vanilla then Gen.CodeApi.vanillaIntoClient else Gen.CodeApi.tbcIntoClient).run P (selfSeed seed)
        [.nstr u, .bytes K, .num serverSeed] []
      = some (.ok (.tup (.bytes (ProofSeed.intoClientHeaderCrypto C e seed u K serverSeed).1) (cryptoMark (ctorOf e) K), selfSeed seed, [])) := by
  cases e <;> simp [ctorOf] at hn <;>
    simp [Gen.CodeApi.vanillaIntoClient, Gen.CodeApi.tbcIntoClient, selfSeed, hw, hn, ctorOf,
      ProofSeed.intoClientHeaderCrypto]

theorem C06_translated_into_client (C : Crypto) (e : Exp) (u : NStr) (K : Bytes) (seed serverSeed : Nat) :
    (if e = .vanilla then Gen.CodeApi.vanillaIntoClient else Gen.CodeApi.tbcIntoClient).run (worldPrims C) (selfSeed seed)
        [.nstr u, .bytes K, .num serverSeed] []
      = some (.ok (.tup (.bytes (ProofSeed.intoClientHeaderCrypto C e seed u K serverSeed).1) (cryptoMark (ctorOf e) K), selfSeed seed, []))
    ∧ (ProofSeed.intoClientHeaderCrypto C e seed u K serverSeed).2 = HeaderCrypto.new C e K :=
  ⟨by apply worldIntoClient_run <;> cases e <;> simp [Prims.call, worldPrims, ctorOf], rfl⟩

theorem worldIntoServer_run (P : Prims) (C : Crypto) (e : Exp) (u : NStr) (K proof : Bytes) (seed clientSeed : Nat)
    (hw : P.call "calculate_world_server_proof" [.nstr u, .bytes K, .num seed, .num clientSeed]
      = some (.ok (.bytes (calculateWorldServerProof C u.asRef K seed clientSeed))))
    (hn : P.call (ctorOf e) [.bytes K] = some (.ok (cryptoMark (ctorOf e) K))) :
    (if e = .vanilla then Gen.CodeApi.vanillaIntoServer else Gen.CodeApi.tbcIntoServer).run P (selfSeed seed)
        [.nstr u, .bytes K, .bytes proof, .num clientSeed] []
      = some (.ok (match ProofSeed.intoServerHeaderCrypto C e seed u K proof clientSeed with
          | .error er => (.err (valMatchErr er), selfSeed seed, [])
          | .ok _ => (.ok (cryptoMark (ctorOf e) K), selfSeed seed, []))) := by
  simp only [ProofSeed.intoServerHeaderCrypto]
  cases e <;> simp [ctorOf] at hn <;>
    simp [Gen.CodeApi.vanillaIntoServer, Gen.CodeApi.tbcIntoServer, selfSeed, hw, hn, ctorOf] <;>
    split <;> simp [*, valMatchErr]

theorem C06_translated_into_server (C : Crypto) (e : Exp) (u : NStr) (K proof : Bytes) (seed clientSeed : Nat) :
    (if e = .vanilla then Gen.CodeApi.vanillaIntoServer else Gen.CodeApi.tbcIntoServer).run (worldPrims C) (selfSeed seed)
        [.nstr u, .bytes K, .bytes proof, .num clientSeed] []
      = some (.ok (match ProofSeed.intoServerHeaderCrypto C e seed u K proof clientSeed with
          | .error er => (.err (valMatchErr er), selfSeed seed, [])
          | .ok _ => (.ok (cryptoMark (ctorOf e) K), selfSeed seed, []))) := by
  apply worldIntoServer_run <;> cases e <;> simp [Prims.call, worldPrims, ctorOf]

theorem C06_translated_wrath_into_client (C : Crypto) (u : NStr) (K : Bytes) (seed serverSeed : Nat) :
    Gen.CodeApi.wrathIntoClient.run (worldPrims C) (selfSeed seed) [.nstr u, .bytes K, .num serverSeed] []
      = some ((ProofSeed.wrathIntoClient C seed u K serverSeed).bind (fun r =>
          .ok (.tup (.bytes r.1) (cryptoMark "wrath_header::ClientCrypto::new" K), selfSeed seed, []))) := by
  simp [Gen.CodeApi.wrathIntoClient, selfSeed, Prims.call, worldPrims, ProofSeed.wrathIntoClient]

theorem wrathIntoServer_run (P : Prims) (C : Crypto) (u : NStr) (K proof : Bytes) (seed clientSeed : Nat)
    (hw : P.call "calculate_world_server_proof" [.nstr u, .bytes K, .num seed, .num clientSeed]
      = some (.ok (.bytes (calculateWorldServerProof C u.asRef K seed clientSeed))))
    (hn : P.call "wrath_header::ServerCrypto::new" [.bytes K]
      = some ((WServerCrypto.new C K).bind (fun _ => .ok (cryptoMark "wrath_header::ServerCrypto::new" K)))) :
    Gen.CodeApi.wrathIntoServer.run P (selfSeed seed) [.nstr u, .bytes K, .bytes proof, .num clientSeed] []
      = some ((ProofSeed.wrathIntoServer C seed u K proof clientSeed).bind (fun r => match r with
          | .error er => .ok (.err (valMatchErr er), selfSeed seed, [])
          | .ok _ => .ok (.ok (cryptoMark "wrath_header::ServerCrypto::new" K), selfSeed seed, []))) := by
  simp [Gen.CodeApi.wrathIntoServer, selfSeed, hw, hn]
  simp only [ProofSeed.wrathIntoServer]
  split <;> simp [*, valMatchErr]

theorem C06_translated_wrath_into_server (C : Crypto) (u : NStr) (K proof : Bytes) (seed clientSeed : Nat) :
    Gen.CodeApi.wrathIntoServer.run (worldPrims C) (selfSeed seed) [.nstr u, .bytes K, .bytes proof, .num clientSeed] []
      = some ((ProofSeed.wrathIntoServer C seed u K proof clientSeed).bind (fun r => match r with
          | .error er => .ok (.err (valMatchErr er), selfSeed seed, [])
          | .ok _ => .ok (.ok (cryptoMark "wrath_header::ServerCrypto::new" K), selfSeed seed, []))) := by
  apply wrathIntoServer_run <;> simp [Prims.call, worldPrims]

/-- `server_seed` / `client_seed` are `u32`s: hypothesis `h2` of the `C06_linked_*` theorems -/
theorem C06_translated_world_signatures :
    Gen.CodeApi.vanillaIntoClientSig = "self,username:&NormalizedString,session_key:[u8;SESSION_KEY_LENGTH as _],server_seed:u32,->([u8;PROOF_LENGTH as _],HeaderCrypto)" ∧
    Gen.CodeApi.vanillaIntoServerSig = "self,username:&NormalizedString,session_key:[u8;SESSION_KEY_LENGTH as _],client_proof:[u8;PROOF_LENGTH as _],client_seed:u32,->Result<HeaderCrypto,MatchProofsError>" ∧
    Gen.CodeApi.tbcIntoClientSig = "self,username:&NormalizedString,session_key:[u8;SESSION_KEY_LENGTH as _],server_seed:u32,->([u8;PROOF_LENGTH as _],HeaderCrypto)" ∧
    Gen.CodeApi.tbcIntoServerSig = "self,username:&NormalizedString,session_key:[u8;SESSION_KEY_LENGTH as _],client_proof:[u8;PROOF_LENGTH as _],client_seed:u32,->Result<HeaderCrypto,MatchProofsError>" ∧
    Gen.CodeApi.wrathIntoClientSig = "self,username:&NormalizedString,session_key:[u8;SESSION_KEY_LENGTH as _],server_seed:u32,->([u8;PROOF_LENGTH as _],ClientCrypto)" ∧
    Gen.CodeApi.wrathIntoServerSig = "self,username:&NormalizedString,session_key:[u8;SESSION_KEY_LENGTH as _],client_proof:[u8;PROOF_LENGTH as _],client_seed:u32,->Result<ServerCrypto,MatchProofsError>" := ⟨rfl, rfl, rfl, rfl, rfl, rfl⟩

#print axioms C06_translated_into_client
#print axioms C06_translated_into_server
#print axioms C06_translated_wrath_into_client
#print axioms C06_translated_wrath_into_server
#print axioms C06_translated_world_signatures
end WowSrp
