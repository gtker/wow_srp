/-
`calculate_interleaved` (src/srp_internal.rs), translated from the working tree by tools/gen_ilv.py (Gen/CodeIlv.lean, meaning in
Model/MiniIlv.lean: generic `skip`/`step_by`, bounds-checked sequential array writes, bounds-checked slices, `zip`), denotes the model's
`calculateInterleaved` for EVERY `C` and EVERY `S` — odd lengths and lengths over 32 (where the Rust panics and so does the model)
included — up to the text of a panic message.
-/
import WowSrp.Gen.CodeIlv
import WowSrp.Model.MiniImp
namespace WowSrp
open MiniIlv MiniImp

theorem stepBy2_evens : ∀ s : Bytes, stepByAux 2 0 s = evens s
  | [] => rfl
  | [_] => rfl
  | a :: b :: r => by simp only [stepByAux, evens, stepBy2_evens r]

theorem stepBy2_odds : ∀ s : Bytes, stepByAux 2 0 (s.drop 1) = odds s
  | [] => rfl
  | [_] => rfl
  | a :: b :: r => by
    have ih := stepBy2_odds r
    cases r with
    | nil => rfl
    | cons c r => simp only [List.drop_succ_cons, List.drop_zero, stepByAux, odds] at ih ⊢; rw [ih]

theorem ilv_evens_length : ∀ s : Bytes, (evens s).length = (s.length + 1) / 2
  | [] => rfl
  | [_] => by simp [evens]
  | a :: b :: r => by simp only [evens, List.length_cons, ilv_evens_length r]; omega

theorem ilv_odds_length : ∀ s : Bytes, (odds s).length = s.length / 2
  | [] => rfl
  | [_] => by simp [odds]
  | a :: b :: r => by simp only [odds, List.length_cons, ilv_odds_length r]; omega

theorem setOut_append (pre suf : Bytes) (x : UInt8) :
    setOut (pre ++ suf) pre.length x = match suf with
      | [] => .panic "index out of bounds"
      | _ :: suf => .ok (pre ++ x :: suf) := by
  cases suf <;> simp [setOut]

theorem fillFrom_spec (st : Src) (hst : ∀ x, st.eval x = x) : ∀ (xs pre suf : Bytes),
    fillFrom st xs pre.length (pre ++ suf) =
      if xs.length ≤ suf.length then .ok (pre ++ xs ++ suf.drop xs.length) else .panic "index out of bounds"
  | [], pre, suf => by simp [fillFrom]
  | x :: xs, pre, [] => by simp [fillFrom, setOut]
  | x :: xs, pre, y :: suf => by
    have ih := fillFrom_spec st hst xs (pre ++ [x]) suf
    simp_all [fillFrom, setOut_append]

/-- a fill loop with the model's numbers is the model's `fillArr` (the text of the panic aside) -/
theorem fillLoop_run (l : FillLoop) (h1 : l.len = 16) (h2 : l.fill = 0) (h4 : l.step = 2) (h5 : ∀ x, l.store.eval x = x) (s : Bytes) :
    l.run s = if (stepByAux 2 0 (s.drop l.skip)).length ≤ 16
      then .ok (stepByAux 2 0 (s.drop l.skip) ++ List.replicate (16 - (stepByAux 2 0 (s.drop l.skip)).length) 0)
      else .panic "index out of bounds" := by
  have h := fillFrom_spec l.store h5 (stepByAux 2 0 (s.drop l.skip)) [] (List.replicate 16 0)
  have hz : UInt8.ofNat 0 = 0 := rfl
  simp only [List.length_nil, List.nil_append, List.length_replicate, List.drop_replicate] at h
  simp only [FillLoop.run, h1, h2, h4, hz, h]
  rfl

/-- the result loop with index terms meaning `2*i`, `2*i+1` and stores `r.0`, `r.1` is the fill loop over the model's `zipFlat` -/
theorem zipLoop_eq_fillFrom (p : IlvProg) (hi1 : ∀ i, p.idx1.eval i = 2 * i) (hs1 : p.sel1 = 0) (hi2 : ∀ i, p.idx2.eval i = 2 * i + 1)
    (hs2 : p.sel2 = 1) : ∀ (G H : Bytes) (i : Nat) (a : Bytes),
    zipLoop p (G.zip H) i a = fillFrom .elem (zipFlat G H) (2 * i) a
  | [], H, i, a => by simp [zipLoop, zipFlat, fillFrom]
  | g :: G, [], i, a => by simp [zipLoop, zipFlat, fillFrom]
  | g :: G, h :: H, i, a => by
    simp only [List.zip_cons_cons, zipLoop, zipFlat, fillFrom, pick, hi1, hs1, hi2, hs2, Src.eval, Out.bind_ok,
      zipLoop_eq_fillFrom p hi1 hs1 hi2 hs2 G H (i + 1), Nat.mul_add, Nat.mul_one]

/-- ANY translated program whose parts mean what the model's parts mean denotes `calculateInterleaved` (the obligations are about the
    meaning of the index terms, not their text: `2 * i + 1` or `i * 2 + 0` are proved the same way) -/
theorem ilv_run_eq_of (p : IlvProg) (h0 : p.unsupported = none) (hsha : p.sha1Once = true) (hle : p.fromLeBytes = true)
    (he1 : p.e.len = 16) (he2 : p.e.fill = 0) (he3 : p.e.skip = 0) (he4 : p.e.step = 2) (he5 : ∀ x, p.e.store.eval x = x)
    (hg1 : p.gReads = 0) (hg2 : p.gDiv = 2)
    (hf1 : p.f.len = 16) (hf2 : p.f.fill = 0) (hf3 : p.f.skip = 1) (hf4 : p.f.step = 2) (hf5 : ∀ x, p.f.store.eval x = x)
    (hh1 : p.hReads = 1) (hh2 : p.hDiv = 2)
    (hr1 : p.resLen = 40) (hr2 : p.resFill = 0) (hz1 : p.zipFst = 0) (hz2 : p.zipSnd = 1)
    (hi1 : ∀ i, p.idx1.eval i = 2 * i) (hs1 : p.sel1 = 0) (hi2 : ∀ i, p.idx2.eval i = 2 * i + 1) (hs2 : p.sel2 = 1)
    (C : Crypto) (S : Bytes) :
    forget (p.run C S) = forget (calculateInterleaved C S) := by
  have hz : UInt8.ofNat 0 = 0 := rfl
  have h20 : ¬ ((2 : Nat) = 0) := by decide +kernel
  simp only [IlvProg.run, calculateInterleaved, h0, hsha, hle, Bool.and_self, Bool.not_true, Bool.false_eq_true, if_false, bind, Out.bind]
  cases asEqualSlice S with
  | panic q => rfl
  | ok s =>
    have hE := fillLoop_run p.e he1 he2 he4 he5 s
    have hF := fillLoop_run p.f hf1 hf2 hf4 hf5 s
    rw [he3, List.drop_zero, stepBy2_evens] at hE
    rw [hf3, stepBy2_odds] at hF
    have hle := ilv_evens_length s
    have hlo := ilv_odds_length s
    simp only [hE, hF, fillArr]
    by_cases hfit : (evens s).length ≤ 16
    · have hfit2 : (odds s).length ≤ 16 := by omega
      have hd : s.length / 2 ≤ 16 := by omega
      have hz40 := fillFrom_spec .elem (fun _ => rfl) (zipFlat
        (C.sha1 ((evens s ++ List.replicate (16 - (evens s).length) 0).take (s.length / 2)))
        (C.sha1 ((odds s ++ List.replicate (16 - (odds s).length) 0).take (s.length / 2)))) [] (List.replicate 40 0)
      simp only [List.nil_append, List.length_replicate, List.drop_replicate, List.length_nil] at hz40
      have hlE : (evens s ++ List.replicate (16 - (evens s).length) 0).length = 16 := by simp; omega
      have hlF : (odds s ++ List.replicate (16 - (odds s).length) 0).length = 16 := by simp; omega
      simp only [if_pos hfit, if_pos hfit2, hashOf, hg1, hg2, hh1, hh2, List.getElem?_cons_zero, List.getElem?_cons_succ, hlE, hlF, hd,
        if_true, if_neg h20, pick, hz1, hz2, hr1, hr2, hz, zipLoop_eq_fillFrom p hi1 hs1 hi2 hs2, Nat.mul_zero, hz40]
      split <;> rfl
    · simp only [if_neg hfit]
      rfl

/-- C03 / C01 / C14: `calculate_interleaved`, as translated from the source on this run, IS the model's `calculateInterleaved`
    (every `C`, every `S`; outcomes compared up to the text of a panic message) -/
theorem C03_translated_interleaved (C : Crypto) (S : Bytes) :
    forget (Gen.CodeIlv.interleaved.run C S) = forget (calculateInterleaved C S) := by
  apply ilv_run_eq_of <;>
    first
    | rfl
    | (intro x; rfl)
    | (intro i; simp only [Gen.CodeIlv.interleaved, IExpr.eval]; omega)

/-- the same obligation under the names of the other properties that rest on the interleaving -/
theorem C01_translated_interleaved (C : Crypto) (S : Bytes) :
    forget (Gen.CodeIlv.interleaved.run C S) = forget (calculateInterleaved C S) := C03_translated_interleaved C S
theorem C14_translated_interleaved (C : Crypto) (S : Bytes) :
    forget (Gen.CodeIlv.interleaved.run C S) = forget (calculateInterleaved C S) := C03_translated_interleaved C S

/-- a toy hash that shows its input: the message padded with 7s / cut to 20 bytes -/
private def Cshow : Crypto := ⟨fun m => (m ++ List.replicate 20 7).take 20, fun _ m => m, fun _ => []⟩

/-- non-vacuity: both sides run on a concrete 32-byte S (even-indexed bytes 1.., odd-indexed bytes 101..) and give the same 40 bytes -/
example : Gen.CodeIlv.interleaved.run Cshow
      [1, 101, 2, 102, 3, 103, 4, 104, 5, 105, 6, 106, 7, 107, 8, 108, 9, 109, 10, 110, 11, 111, 12, 112, 13, 113, 14, 114, 15, 115, 16, 116]
    = .ok [1, 101, 2, 102, 3, 103, 4, 104, 5, 105, 6, 106, 7, 107, 8, 108, 9, 109, 10, 110, 11, 111, 12, 112, 13, 113, 14, 114, 15, 115, 16, 116,
           7, 7, 7, 7, 7, 7, 7, 7]
    ∧ calculateInterleaved Cshow
      [1, 101, 2, 102, 3, 103, 4, 104, 5, 105, 6, 106, 7, 107, 8, 108, 9, 109, 10, 110, 11, 111, 12, 112, 13, 113, 14, 114, 15, 115, 16, 116]
    = .ok [1, 101, 2, 102, 3, 103, 4, 104, 5, 105, 6, 106, 7, 107, 8, 108, 9, 109, 10, 110, 11, 111, 12, 112, 13, 113, 14, 114, 15, 115, 16, 116,
           7, 7, 7, 7, 7, 7, 7, 7] := by decide +kernel

/-- an odd length (the strip rule leaves 3 bytes after two zeros): E gets 2 bytes, F gets 1, both hashes read 1 byte -/
example : Gen.CodeIlv.interleaved.run Cshow [0, 0, 5, 6, 9] = calculateInterleaved Cshow [0, 0, 5, 6, 9]
    ∧ (calculateInterleaved Cshow [0, 0, 5, 6, 9]).isOk = true := by decide +kernel

/-- 34 bytes: the 17th write to `E` is out of bounds in the Rust, in the translated program and in the model -/
example : forget (Gen.CodeIlv.interleaved.run Cshow (List.replicate 34 1)) = none
    ∧ forget (calculateInterleaved Cshow (List.replicate 34 1)) = none := by decide +kernel

#print axioms C03_translated_interleaved
#print axioms C01_translated_interleaved
#print axioms C14_translated_interleaved

end WowSrp
