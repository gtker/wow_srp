/-
Translator leg: the GLUE between the translated cores and the public API.  tools/gen_constants.py lists, on every run, the signature and the
whole body (whitespace removed) of every function of src/key.rs, src/bigint.rs, src/primes.rs EXCEPT those that tools/gen_code.py translates
semantically (cipher loops, header builders / parsers, strip rule, RC4 step, big-integer formulas).  These are the one-to-five-line functions
that convert bytes to a big integer little-endian, draw a key from `thread_rng()`, refuse a public key that is zero: what the
model assumes about them is exactly their text, so the obligation is their text, stated once and again under the name of every property
that rests on it (each check audits its own names).  tools/translator_selftest.py keeps the edits this extraction has to see.
-/
import WowSrp.Gen.Constants
import WowSrp.Gen.Facts
namespace WowSrp

def expected_glueSrp : List (List String) := [["fnas_bigint(&self)->bigint::Integer {bigint::Integer::from_bytes_le(&self.key)}", "fndefault()->Self {letmutkey=[0_u8;$size];thread_rng().fill_bytes(&mutkey);Self::from_le_bytes(key)}", "fnrandomized()->Self {Self::default()}", "fncheck_public_key(key:&[u8;PUBLIC_KEY_LENGTHasusize])->Result<(),InvalidPublicKeyError> {ifkey.iter().all(|value|*value==0){returnErr(InvalidPublicKeyError::PublicKeyIsZero);}if*key==LARGE_SAFE_PRIME_LITTLE_ENDIAN{returnErr(InvalidPublicKeyError::PublicKeyModLargeSafePrimeIsZero);}Ok(())}", "fnfrom_le_bytes(key:[u8;$size])->Self {Self{key}}", "fnfrom_be_hex_str(s:&str)->Self {letmutkey=hex_decode(&s);key.reverse();whilekey.len()<$size{key.push(0);}letkey=<[u8;$size]>::try_from(key).unwrap();Self{key}}", "fnfrom(b:bigint::Integer)->Self {letmutkey=[0_u8;$size];letb=b.to_bytes_le().to_vec();key[0..b.len()].clone_from_slice(&b);Self{key}}", "fnas_le_bytes(&self)->&[u8;$size] {&self.key}", "fnas_be_hex_string(&self)->String {letmutkey=self.key;key.reverse();hex_encode_upper(&key)}", "fnfrom_le_hex_str(s:&str)->Self {letkey=hex_decode(&s);letkey=<[u8;$size]>::try_from(key).unwrap();Self{key}}", "fnfrom_le_bytes(key:[u8;PUBLIC_KEY_LENGTHasusize],)->Result<Self,InvalidPublicKeyError> {letkey_is_valid=check_public_key(&key);matchkey_is_valid{Ok(_)=>Ok(Self{key}),Err(e)=>Err(e),}}", "fnfrom_be_hex_str(s:&str)->Result<Self,InvalidPublicKeyError> {letmutkey=hex_decode(s);key.reverse();ifkey.len()>PUBLIC_KEY_LENGTHasusize{panic!(\"PublicKeyfrom_be_hex_strlengthisgreaterthan{}\",PUBLIC_KEY_LENGTH);}whilekey.len()<PUBLIC_KEY_LENGTHasusize{key.push(0);}letkey=<[u8;PUBLIC_KEY_LENGTHasusize]>::try_from(key).unwrap();Self::from_le_bytes(key)}", "fnclient_try_from_bigint(b:bigint::Integer,large_safe_prime:&crate::primes::LargeSafePrime,)->Result<Self,InvalidPublicKeyError> {ifb.is_zero(){returnErr(InvalidPublicKeyError::PublicKeyIsZero);}ifb.mod_large_safe_prime_is_zero(large_safe_prime){returnErr(InvalidPublicKeyError::PublicKeyModLargeSafePrimeIsZero);}letmutkey=[0_u8;PUBLIC_KEY_LENGTHasusize];letb=b.to_bytes_le().to_vec();key[0..b.len()].clone_from_slice(&b);Ok(Self{key})}", "fntry_from_bigint(b:bigint::Integer)->Result<Self,InvalidPublicKeyError> {letmutkey=[0_u8;PUBLIC_KEY_LENGTHasusize];letb=b.to_bytes_le().to_vec();key[0..b.len()].clone_from_slice(&b);Self::from_le_bytes(key)}", "fnrandomize_data(&mutself) {thread_rng().fill_bytes(&mutself.key);}", "fnto_padded_32_byte_array_le(&self)->[u8;32] {letvalue=self.to_bytes_le();letmutarray=[0_u8;32];array[0..value.len()].clone_from_slice(&value);array}", "fnis_zero(&self)->bool {self.value==Integer::from(0).value}", "fnmod_large_safe_prime_is_zero(&self,large_safe_prime:&LargeSafePrime)->bool {(&self.value%large_safe_prime.to_bigint().value)==Integer::from(0).value}", "fnto_bytes_le(&self)->Vec<u8> {#[cfg(feature=\"srp-fast-math\")]{self.value.to_digits(Order::LsfLe)}#[cfg(all(feature=\"srp-default-math\",not(feature=\"srp-fast-math\")))]{self.value.to_bytes_le().1}}", "fnmodpow(self,exponent:&Self,modulus:&Self)->Self {#[cfg(feature=\"srp-fast-math\")]{ifexponent.value>0&&modulus.value.is_odd(){Self::from_bigint(self.value.secure_pow_mod(&exponent.value,&modulus.value))}else{Self::from_bigint(self.value.pow_mod(&exponent.value,&modulus.value).unwrap())}}#[cfg(all(feature=\"srp-default-math\",not(feature=\"srp-fast-math\")))]{Self::from_bigint(self.value.modpow(&exponent.value,&modulus.value))}}", "fnfrom_bytes_le(v:&[u8])->Self {#[cfg(all(feature=\"srp-default-math\",not(feature=\"srp-fast-math\")))]{Self::from_bigint(BigInt::from_bytes_le(num_bigint::Sign::Plus,v))}#[cfg(feature=\"srp-fast-math\")]{Self::from_bigint(BigInt::from_digits(v,Order::LsfLe))}}", "fnfrom_bigint(bigint:BigInt)->Self {Self{value:bigint}}", "fnfrom(v:u8)->Self {Self::from_bigint(BigInt::from(v))}", "fnmul(self,rhs:Integer)->Self::Output {Self::from_bigint(self.value*rhs.value)}", "fnadd(self,rhs:Integer)->Self::Output {Self::from_bigint(self.value+rhs.value)}", "fnsub(self,rhs:Integer)->Self::Output {Self::from_bigint(self.value-rhs.value)}", "fnrem(self,rhs:Integer)->Self::Output {Self::from_bigint(self.value%rhs.value)}", "fndefault()->Self {Self{prime:LARGE_SAFE_PRIME_LITTLE_ENDIAN,}}", "fnfrom_le_bytes(prime:[u8;LARGE_SAFE_PRIME_LENGTHasusize])->Self {Self{prime}}", "fnas_le_bytes(&self)->&[u8;LARGE_SAFE_PRIME_LENGTHasusize] {&self.prime}", "fnto_bigint(&self)->bigint::Integer {bigint::Integer::from_bytes_le(&self.prime)}", "fndefault()->Self {Self{generator:GENERATOR,}}", "fnto_bigint(&self)->bigint::Integer {bigint::Integer::from(self.generator)}", "fnas_u8(&self)->u8 {self.generator}", "fnfrom(g:u8)->Self {Self{generator:g}}", "fnbigint()->bigint::Integer {bigint::Integer::from(K_VALUE)}"]]

theorem glueSrp_ok : Gen.glueSrp = expected_glueSrp := rfl

theorem C01_source_glue_srp : Gen.glueSrp = expected_glueSrp := glueSrp_ok
theorem C02_source_glue_srp : Gen.glueSrp = expected_glueSrp := glueSrp_ok
theorem C03_source_glue_srp : Gen.glueSrp = expected_glueSrp := glueSrp_ok
theorem C04_source_glue_srp : Gen.glueSrp = expected_glueSrp := glueSrp_ok
theorem C14_source_glue_srp : Gen.glueSrp = expected_glueSrp := glueSrp_ok
theorem C19_source_glue_srp : Gen.glueSrp = expected_glueSrp := glueSrp_ok

end WowSrp
