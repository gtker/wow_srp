/-
Translator leg: the GLUE between the translated cores and the public API.  tools/gen_constants.py lists, on every run, the signature and the
whole body (whitespace removed) of every function of src/vanilla_header/{encrypt,decrypt}.rs EXCEPT those that tools/gen_code.py translates
semantically (cipher loops, header builders / parsers, strip rule, RC4 step, big-integer formulas).  These are the one-to-five-line functions
that pass `self.session_key, &mut self.index, &mut self.previous_value` in this order, call `read_exact` BEFORE decrypting: what the
model assumes about them is exactly their text, so the obligation is their text, stated once and again under the name of every property
that rests on it (each check audits its own names).  tools/translator_selftest.py keeps the edits this extraction has to see.
-/
import WowSrp.Gen.Constants
import WowSrp.Gen.Facts
namespace WowSrp

def expected_glueVanilla : List (List String) := [["fnencrypt(&mutself,data:&mut[u8]) {encrypt(data,self.session_key,&mutself.index,&mutself.previous_value,);}", "fnwrite_encrypted_server_header<W:Write>(&mutself,mutwrite:W,size:u16,opcode:u16,)->std::io::Result<()> {letbuf=self.encrypt_server_header(size,opcode);write.write_all(&buf)?;Ok(())}", "fnwrite_encrypted_client_header<W:Write>(&mutself,mutwrite:W,size:u16,opcode:u32,)->std::io::Result<()> {letbuf=self.encrypt_client_header(size,opcode);write.write_all(&buf)?;Ok(())}", "fnis_pair_of(&self,other:&DecrypterHalf)->bool {self.session_key==other.session_key}", "fnnew(session_key:[u8;SESSION_KEY_LENGTHasusize])->Self {Self{session_key,index:0,previous_value:0,}}", "fnunsplit(self,decrypter:DecrypterHalf)->Result<HeaderCrypto,UnsplitCryptoError> {if!self.is_pair_of(&decrypter){returnErr(UnsplitCryptoError{});}Ok(HeaderCrypto{decrypt:decrypter,encrypt:self,})}", "fndecrypt(&mutself,data:&mut[u8]) {decrypt(data,&self.session_key,&mutself.index,&mutself.previous_value,);}", "fnread_and_decrypt_server_header<R:Read>(&mutself,mutreader:R,)->std::io::Result<ServerHeader> {letmutbuf=[0_u8;SERVER_HEADER_LENGTHasusize];reader.read_exact(&mutbuf)?;Ok(self.decrypt_server_header(buf))}", "fnread_and_decrypt_client_header<R:Read>(&mutself,mutreader:R,)->std::io::Result<ClientHeader> {letmutbuf=[0_u8;CLIENT_HEADER_LENGTHasusize];reader.read_exact(&mutbuf)?;Ok(self.decrypt_client_header(buf))}", "fndecrypt_server_header(&mutself,mutdata:[u8;SERVER_HEADER_LENGTHasusize],)->ServerHeader {self.decrypt(&mutdata);ServerHeader::from_array(data)}", "fndecrypt_client_header(&mutself,mutdata:[u8;CLIENT_HEADER_LENGTHasusize],)->ClientHeader {self.decrypt(&mutdata);ClientHeader::from_array(data)}", "fnis_pair_of(&self,other:&EncrypterHalf)->bool {other.is_pair_of(self)}", "fnnew(session_key:[u8;SESSION_KEY_LENGTHasusize])->Self {Self{session_key,index:0,previous_value:0,}}"]]

theorem glueVanilla_ok : Gen.glueVanilla = expected_glueVanilla := rfl

theorem C07_source_glue_vanilla : Gen.glueVanilla = expected_glueVanilla := glueVanilla_ok
theorem C11_source_glue_vanilla : Gen.glueVanilla = expected_glueVanilla := glueVanilla_ok
theorem C12_source_glue_vanilla : Gen.glueVanilla = expected_glueVanilla := glueVanilla_ok
theorem C14_source_glue_vanilla : Gen.glueVanilla = expected_glueVanilla := glueVanilla_ok

end WowSrp
