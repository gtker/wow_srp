/-
`SrpVerifier::from_username_and_password` and `SrpVerifier::into_proof` (server.rs), translated from the working tree by tools/gen_api.py, denote the
model's functions with the drawn salt / private key made explicit: exactly one draw each, used as the salt / the private key.
-/
import WowSrp.Props.Source.ApiBase
import WowSrp.Lemmas.MiniApi
namespace WowSrp
open MiniApi

theorem fromUsernameAndPassword_run (P : Prims) (C : Crypto) (be : Backend) (u p : NStr) (salt : Bytes) (rest : List Bytes)
    (hs : P.call "Self::with_specific_salt" [.nstr u, .nstr p, .bytes salt]
      = some ((SrpVerifier.fromUsernameAndPassword C be u p salt).bind (fun r => .ok (valVerifier r)))) :
    Gen.CodeApi.fromUsernameAndPassword.run P [] [.nstr u, .nstr p] (salt :: rest)
      = some ((SrpVerifier.fromUsernameAndPassword C be u p salt).bind (fun s => .ok (valVerifier s, [], rest))) := by
  simp [Gen.CodeApi.fromUsernameAndPassword, hs]

/-- `SrpVerifier::from_username_and_password(username, password)`: the salt is the one draw -/
theorem C15_translated_from_username_and_password (C : Crypto) (be : Backend) (u p : NStr) (salt : Bytes) (rest : List Bytes) :
    Gen.CodeApi.fromUsernameAndPassword.run (srvPrims C be) [] [.nstr u, .nstr p] (salt :: rest)
      = some ((SrpVerifier.fromUsernameAndPassword C be u p salt).bind (fun s => .ok (valVerifier s, [], rest))) := by
  apply fromUsernameAndPassword_run; simp [Prims.call, srvPrims]

theorem intoProof_run (P : Prims) (be : Backend) (s : SrpVerifier) (b : Bytes) (rest : List Bytes)
    (hk : P.call "Self::with_specific_private_key" [.struct "SrpVerifier" (selfVerifier s), .bytes b]
      = some ((s.withSpecificPrivateKey be b).bind (fun r => match r with
          | .error e => .ok (.err (pkErrVal e)) | .ok p => .ok (.ok (valProof p))))) :
    (Gen.CodeApi.intoProof.run P (selfVerifier s) [] (b :: rest)).map outcomeOf
      = some (outcomeOf ((s.intoProof be b).bind (fun p => .ok (valProof p, selfVerifier s, rest)))) := by
  simp only [SrpVerifier.intoProof]
  generalize s.withSpecificPrivateKey be b = r at hk ⊢
  rcases r with (e | pr) | m <;> simp [Gen.CodeApi.intoProof, hk, outcomeOf]

/-- `SrpVerifier::into_proof(self)`: the private key is the one draw; same value, or both panic (the `expect` on an invalid public key) -/
theorem C15_translated_into_proof (C : Crypto) (be : Backend) (s : SrpVerifier) (b : Bytes) (rest : List Bytes) :
    (Gen.CodeApi.intoProof.run (srvPrims C be) (selfVerifier s) [] (b :: rest)).map outcomeOf
      = some (outcomeOf ((s.intoProof be b).bind (fun p => .ok (valProof p, selfVerifier s, rest)))) := by
  apply intoProof_run; simp [Prims.call, srvPrims, selfVerifier]; rfl

theorem C15_translated_draw_signatures :
    Gen.CodeApi.fromUsernameAndPasswordSig = "username:NormalizedString,password:NormalizedString,->Self" ∧
    Gen.CodeApi.intoProofSig = "self->SrpProof" := ⟨rfl, rfl⟩

#print axioms C15_translated_from_username_and_password
#print axioms C15_translated_into_proof
#print axioms C15_translated_draw_signatures
end WowSrp
