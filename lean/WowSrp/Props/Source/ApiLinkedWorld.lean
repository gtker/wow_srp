/-
The world-login `into_server_header_crypto` / `into_client_header_crypto` of all three expansions (both functions for Vanilla, the deciding
`into_server_header_crypto` for TBC and Wrath) with `calculate_world_server_proof` meaning its TRANSLATED term (see
Props/Source/ApiLinkBase.lean): the arguments at the call site — user name, session key, the object's own seed, the peer's seed — handed
positionally to the parameters of the callee's signature (username, session_key, server_seed, client_seed) give the model's function.
-/
import WowSrp.Props.Source.ApiLinkBase
import WowSrp.Props.Source.ApiWorld
import WowSrp.Props.Source.HashesWorld
namespace WowSrp
open MiniApi

def worldLinkedPrims (C : Crypto) : Prims := fun n =>
  if n = "calculate_world_server_proof" then some (hashCallee Gen.CodeHash.worldProof C) else worldPrims C n

theorem hashCallee_world_proof (C : Crypto) (u : NStr) (K : Bytes) (s c : Nat) (hs : s < 2 ^ 32) (hc : c < 2 ^ 32) :
    hashCallee Gen.CodeHash.worldProof C [.nstr u, .bytes K, .num s, .num c] = .ok (.bytes (calculateWorldServerProof C u.asRef K s c)) := by
  -- restated with `noHashCallees`, which is what `hashCallee` unfolds to (the theorem spells it `fun _ => none`)
  have h : Gen.CodeHash.worldProof.run C noHashCallees [.bytes u.asRef, .bytes K, .num s, .num c] = some (calculateWorldServerProof C u.asRef K s c) :=
    C06_translated_world_proof C u.asRef K s c hs hc
  simp [hashCallee, toHashVals, toHashVal, h, bind, Option.bind]

/-- seeds are `u32`s -/
theorem C06_linked_into_server (C : Crypto) (u : NStr) (K proof : Bytes) (seed clientSeed : Nat) (h1 : seed < 2 ^ 32) (h2 : clientSeed < 2 ^ 32) :
    Gen.CodeApi.vanillaIntoServer.run (worldLinkedPrims C) (selfSeed seed) [.nstr u, .bytes K, .bytes proof, .num clientSeed] []
      = some (.ok (match ProofSeed.intoServerHeaderCrypto C .vanilla seed u K proof clientSeed with
          | .error er => (.err (valMatchErr er), selfSeed seed, [])
          | .ok _ => (.ok (cryptoMark "vanilla_header::HeaderCrypto::new" K), selfSeed seed, []))) := by
  apply worldIntoServer_run (e := .vanilla) <;>
    simp [Prims.call, worldLinkedPrims, worldPrims, ctorOf, hashCallee_world_proof, h1, h2]

theorem C06_linked_into_client (C : Crypto) (u : NStr) (K : Bytes) (seed serverSeed : Nat) (h1 : seed < 2 ^ 32) (h2 : serverSeed < 2 ^ 32) :
    Gen.CodeApi.vanillaIntoClient.run (worldLinkedPrims C) (selfSeed seed) [.nstr u, .bytes K, .num serverSeed] []
      = some (.ok (.tup (.bytes (ProofSeed.intoClientHeaderCrypto C .vanilla seed u K serverSeed).1) (cryptoMark "vanilla_header::HeaderCrypto::new" K), selfSeed seed, [])) := by
  apply worldIntoClient_run (e := .vanilla) <;>
    simp [Prims.call, worldLinkedPrims, worldPrims, ctorOf, hashCallee_world_proof, h1, h2]

/-- the TBC copy: same statement about the TBC module's own term and constructor -/
theorem C06_linked_tbc_into_server (C : Crypto) (u : NStr) (K proof : Bytes) (seed clientSeed : Nat) (h1 : seed < 2 ^ 32) (h2 : clientSeed < 2 ^ 32) :
    Gen.CodeApi.tbcIntoServer.run (worldLinkedPrims C) (selfSeed seed) [.nstr u, .bytes K, .bytes proof, .num clientSeed] []
      = some (.ok (match ProofSeed.intoServerHeaderCrypto C .tbc seed u K proof clientSeed with
          | .error er => (.err (valMatchErr er), selfSeed seed, [])
          | .ok _ => (.ok (cryptoMark "tbc_header::HeaderCrypto::new" K), selfSeed seed, []))) := by
  apply worldIntoServer_run (e := .tbc) <;>
    simp [Prims.call, worldLinkedPrims, worldPrims, ctorOf, hashCallee_world_proof, h1, h2]

/-- the Wrath copy -/
theorem C06_linked_wrath_into_server (C : Crypto) (u : NStr) (K proof : Bytes) (seed clientSeed : Nat) (h1 : seed < 2 ^ 32) (h2 : clientSeed < 2 ^ 32) :
    Gen.CodeApi.wrathIntoServer.run (worldLinkedPrims C) (selfSeed seed) [.nstr u, .bytes K, .bytes proof, .num clientSeed] []
      = some ((ProofSeed.wrathIntoServer C seed u K proof clientSeed).bind (fun r => match r with
          | .error er => .ok (.err (valMatchErr er), selfSeed seed, [])
          | .ok _ => .ok (.ok (cryptoMark "wrath_header::ServerCrypto::new" K), selfSeed seed, []))) := by
  apply wrathIntoServer_run <;> simp [Prims.call, worldLinkedPrims, worldPrims, hashCallee_world_proof, h1, h2]

#print axioms C06_linked_into_server
#print axioms C06_linked_tbc_into_server
#print axioms C06_linked_wrath_into_server
#print axioms C06_linked_into_client
end WowSrp
