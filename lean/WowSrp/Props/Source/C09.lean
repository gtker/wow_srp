/-
Translator leg for C09: facts extracted from the Rust source by tools/gen_constants.py on every run: how
`InnerCrypto::new` keys its RC4. A change in the Rust that alters one of them breaks exactly these obligations,
independently of the correspondence run.
-/
import WowSrp.Gen.Facts
namespace WowSrp

/-- C09: RC4 key = HMAC(direction constant, session key) -/
theorem C09_source_layout : Gen.layoutWrathInnerNew = [["key:key.as_slice()", "session_key"], ["ctors:Hmac::<Sha1>::new_from_slice", "methods:finalize,into_bytes,update", "control:", "rebound:hmac", "tail:Self{inner}"]] := rfl

end WowSrp
