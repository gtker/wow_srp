/-
Translator leg for C01: facts extracted from the Rust source by tools/gen_constants.py on every run: that the SRP
modules keep no state between calls, that the modulus is converted from the prime the object holds, and that the
default prime and generator are the built-in constants. A change in the Rust that alters one of them breaks exactly
these obligations, independently of the correspondence run.
-/
import WowSrp.Gen.Constants
namespace WowSrp

/-- C01/C03: the SRP modules keep no state between calls (no statics, thread-locals, interior mutability),
    and the modulus every modpow uses is converted from the prime the object holds — the Model's
    functions are pure, so a login's outcome cannot depend on what ran before on the same thread -/
theorem C01_source_no_hidden_state :
    Gen.srpModulesHaveNoSharedState = true ∧ Gen.primeToBigintIsPure = true ∧
    Gen.defaultPrimeIsLE = true ∧ Gen.defaultGeneratorIsG = true := ⟨rfl, rfl, rfl, rfl⟩

end WowSrp
