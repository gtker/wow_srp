/-
`SrpProof::into_server` (server.rs), translated from the working tree by tools/gen_api.py, denotes the model's `SrpProof.intoServer` for every state,
argument and draw: the comparison, both branches, and the reconnect challenge drawn only on the accepting path.
-/
import WowSrp.Props.Source.ApiBase
import WowSrp.Lemmas.MiniApi
namespace WowSrp
open MiniApi

theorem intoServer_run (P : Prims) (C : Crypto) (be : Backend) (p : SrpProof) (A M1 ch : Bytes) (rest : List Bytes)
    (hK : P.call "calculate_session_key" [.bytes A, .bytes p.serverPublicKey, .bytes p.passwordVerifier, .bytes p.serverPrivateKey]
      = some (outBytes (calculateSessionKey C be A p.serverPublicKey p.passwordVerifier p.serverPrivateKey)))
    (hM1 : ∀ K, P.call "calculate_client_proof" [.nstr p.username, .bytes K, .bytes A, .bytes p.serverPublicKey, .bytes p.salt]
      = some (.ok (.bytes (calculateClientProof C p.username.asRef K A p.serverPublicKey p.salt))))
    (hM2 : ∀ M K, P.call "calculate_server_proof" [.bytes A, .bytes M, .bytes K] = some (.ok (.bytes (calculateServerProof C A M K)))) :
    Gen.CodeApi.intoServer.run P (selfProof p) [.bytes A, .bytes M1] (ch :: rest)
      = some ((p.intoServer C be A M1 ch).bind (fun r => match r with
          | .error e => .ok (.err (valMatchErr e), selfProof p, ch :: rest)
          | .ok (s, M2) => .ok (.ok (.tup (valServer s) (.bytes M2)), selfProof p, rest))) := by
  simp only [SrpProof.intoServer]
  simp [Gen.CodeApi.intoServer, selfProof, hK, hM1, hM2, outBytes]
  cases calculateSessionKey C be A p.serverPublicKey p.passwordVerifier p.serverPrivateKey with
  | panic m => rfl
  | ok K => by_cases h : M1 = calculateClientProof C p.username.asRef K A p.serverPublicKey p.salt <;> simp [h, valServer, valMatchErr]

/-- `SrpProof::into_server(self, client_public_key, client_proof)`: the reconnect challenge is drawn only on the accepting path -/
theorem C02_translated_into_server (C : Crypto) (be : Backend) (p : SrpProof) (A M1 ch : Bytes) (rest : List Bytes) :
    Gen.CodeApi.intoServer.run (srpPrims C be) (selfProof p) [.bytes A, .bytes M1] (ch :: rest)
      = some ((p.intoServer C be A M1 ch).bind (fun r => match r with
          | .error e => .ok (.err (valMatchErr e), selfProof p, ch :: rest)
          | .ok (s, M2) => .ok (.ok (.tup (valServer s) (.bytes M2)), selfProof p, rest))) := by
  apply intoServer_run <;> intros <;> simp [Prims.call, srpPrims]

theorem C02_translated_into_server_signature :
    Gen.CodeApi.intoServerSig = "self,client_public_key:PublicKey,client_proof:[u8;PROOF_LENGTH as usize],->Result<(SrpServer,[u8;PROOF_LENGTH as usize]),MatchProofsError>" := rfl

#print axioms C02_translated_into_server
#print axioms C02_translated_into_server_signature
end WowSrp
