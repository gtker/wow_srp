/-
`SrpServer::verify_reconnection_attempt` (server.rs) and `SrpClient::calculate_reconnect_values` (client.rs), translated from the working tree by
tools/gen_api.py, denote the model's functions for every state, argument and draw: the verdict is the comparison with the proof over the
challenge currently stored, and the stored challenge is replaced by the next draw WHATEVER the verdict.
-/
import WowSrp.Props.Source.ApiBase
import WowSrp.Lemmas.MiniApi
namespace WowSrp
open MiniApi

/-- (`valClient`, the same object as a returned value, is in ApiClient.lean) -/
def selfClient (c : SrpClient) : Fields := [("username", .nstr c.username), ("session_key", .bytes c.sessionKey)]

theorem verifyReconnectionAttempt_run (P : Prims) (C : Crypto) (s : SrpServer) (cd proof draw : Bytes) (rest : List Bytes)
    (hp : P.call "calculate_reconnect_proof" [.nstr s.username, .bytes cd, .bytes s.reconnectChallengeData, .bytes s.sessionKey]
      = some (.ok (.bytes (calculateReconnectProof C s.username.asRef cd s.reconnectChallengeData s.sessionKey)))) :
    Gen.CodeApi.verifyReconnectionAttempt.run P (selfServer s) [.bytes cd, .bytes proof] (draw :: rest)
      = some (.ok (.bool (s.verifyReconnectionAttempt C cd proof draw).1, selfServer (s.verifyReconnectionAttempt C cd proof draw).2, rest)) := by
  simp [Gen.CodeApi.verifyReconnectionAttempt, selfServer, hp, SrpServer.verifyReconnectionAttempt]

/-- `SrpServer::verify_reconnection_attempt(&mut self, client_data, client_proof)`: the verdict, and the challenge replaced by the next draw
    whatever the verdict -/
theorem C05_translated_verify_reconnection_attempt (C : Crypto) (be : Backend) (s : SrpServer) (cd proof draw : Bytes) (rest : List Bytes) :
    Gen.CodeApi.verifyReconnectionAttempt.run (srpPrims C be) (selfServer s) [.bytes cd, .bytes proof] (draw :: rest)
      = some (.ok (.bool (s.verifyReconnectionAttempt C cd proof draw).1, selfServer (s.verifyReconnectionAttempt C cd proof draw).2, rest)) := by
  apply verifyReconnectionAttempt_run; simp [Prims.call, srpPrims]

theorem calculateReconnectValues_run (P : Prims) (C : Crypto) (c : SrpClient) (sd draw : Bytes) (rest : List Bytes)
    (hp : P.call "calculate_reconnect_proof" [.nstr c.username, .bytes draw, .bytes sd, .bytes c.sessionKey]
      = some (.ok (.bytes (calculateReconnectProof C c.username.asRef draw sd c.sessionKey)))) :
    Gen.CodeApi.calculateReconnectValues.run P (selfClient c) [.bytes sd] (draw :: rest)
      = some (.ok (.struct "SrpClientReconnection"
          [("challenge_data", .bytes (c.calculateReconnectValues C sd draw).1), ("proof", .bytes (c.calculateReconnectValues C sd draw).2)],
          selfClient c, rest)) := by
  simp [Gen.CodeApi.calculateReconnectValues, selfClient, hp, SrpClient.calculateReconnectValues]

/-- `SrpClient::calculate_reconnect_values(&self, server_challenge_data)`: the client challenge is the next draw -/
theorem C05_translated_calculate_reconnect_values (C : Crypto) (be : Backend) (c : SrpClient) (sd draw : Bytes) (rest : List Bytes) :
    Gen.CodeApi.calculateReconnectValues.run (srpPrims C be) (selfClient c) [.bytes sd] (draw :: rest)
      = some (.ok (.struct "SrpClientReconnection"
          [("challenge_data", .bytes (c.calculateReconnectValues C sd draw).1), ("proof", .bytes (c.calculateReconnectValues C sd draw).2)],
          selfClient c, rest)) := by
  apply calculateReconnectValues_run; simp [Prims.call, srpPrims]

theorem C05_translated_reconnect_signatures :
    Gen.CodeApi.verifyReconnectionAttemptSig = "&mut self,client_data:[u8;RECONNECT_CHALLENGE_DATA_LENGTH as usize],client_proof:[u8;PROOF_LENGTH as usize],->bool" ∧
    Gen.CodeApi.calculateReconnectValuesSig = "&self,server_challenge_data:[u8;RECONNECT_CHALLENGE_DATA_LENGTH as usize],->SrpClientReconnection" := ⟨rfl, rfl⟩

#print axioms C05_translated_verify_reconnection_attempt
#print axioms C05_translated_calculate_reconnect_values
#print axioms C05_translated_reconnect_signatures
end WowSrp
