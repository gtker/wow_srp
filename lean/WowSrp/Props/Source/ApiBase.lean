/-
Definitions shared by Props/Source/Api*.lean (no theorems here):
* what a callee NAME means: `srpPrims` maps the names called in server.rs, client.rs and `calculate_session_key` to the model's functions
  (Model/Srp.lean), arguments in the order of the call; `srvPrims` adds the three `Self::…` constructors of `SrpVerifier`; an ill-typed call
  panics (`illTyped`).  The callees themselves are tied to the source by the formula, hash-layout, interleave and strip-rule theorems;
* how the model's structures are written as MiniApi values: `selfX` is an object as the field list of `self`, `valX` the same object as a
  returned struct VALUE;
* `outcomeOf`: an outcome without the text of a panic message.

How the Api*.lean files are made.  For a translated function `f` of Gen/CodeApi.lean there is ONE general theorem `f_run (P : Prims)`: for
every state, argument and drawn value the term denotes the model's function, under hypotheses that say what `P.call` answers on the calls that
occur in `f`.  `Cxx_translated_f` is its instance at the tables above (`worldPrims` of ApiWorld.lean for the world login): a callee name
means the model's function.  `Cxx_linked_f` (ApiLinked*.lean, see ApiLinkBase.lean) is its instance at an environment where the callee
names mean the TRANSLATED callees.
(`with_specific_private_key` and Wrath's `into_client_header_crypto` have one instance and are proved directly.)  The equations that run
the terms are the `scoped simp` set of Lemmas/MiniApi.lean.  Each of the six files ends with a `Cxx_translated_…_signature(s)` fact: the terms carry
parameter NAMES only, and the parameter and return types decide what a conversion such as `Generator::from(generator)`, `.into()` or `?`
means, so the signatures the terms were read under are pinned as text.
-/
import WowSrp.Gen.CodeApi
namespace WowSrp
open MiniApi

def outBytes (o : Out Bytes) : Out AVal := o.bind (fun b => Out.ok (AVal.bytes b))
def pkErrVal : PKErr → AVal
  | .isZero => .struct "InvalidPublicKeyError::PublicKeyIsZero" []
  | .modIsZero => .struct "InvalidPublicKeyError::PublicKeyModLargeSafePrimeIsZero" []
def outKey (o : Out (Except PKErr Bytes)) : Out AVal :=
  o.bind (fun r => match r with | .ok b => Out.ok (AVal.ok (AVal.bytes b)) | .error e => Out.ok (AVal.err (pkErrVal e)))
def illTyped : Out AVal := .panic "ill-typed call"

/-- what the names called in server.rs / client.rs / calculate_session_key mean: the model's functions -/
def srpPrims (C : Crypto) (be : Backend) : Prims := fun n =>
  if n = "calculate_session_key" then some (fun vs => match vs with
    | [.bytes A, .bytes B, .bytes v, .bytes b] => outBytes (calculateSessionKey C be A B v b) | _ => illTyped)
  else if n = "calculate_client_proof" then some (fun vs => match vs with
    | [.nstr u, .bytes K, .bytes A, .bytes B, .bytes s] => .ok (.bytes (calculateClientProof C u.asRef K A B s)) | _ => illTyped)
  else if n = "calculate_server_proof" then some (fun vs => match vs with
    | [.bytes A, .bytes M1, .bytes K] => .ok (.bytes (calculateServerProof C A M1 K)) | _ => illTyped)
  else if n = "calculate_reconnect_proof" then some (fun vs => match vs with
    | [.nstr u, .bytes cd, .bytes sd, .bytes K] => .ok (.bytes (calculateReconnectProof C u.asRef cd sd K)) | _ => illTyped)
  else if n = "calculate_password_verifier" then some (fun vs => match vs with
    | [.nstr u, .nstr p, .bytes s] => outBytes (calculatePasswordVerifier C be u.asRef p.asRef s) | _ => illTyped)
  else if n = "calculate_server_public_key" then some (fun vs => match vs with
    | [.bytes v, .bytes b] => outKey (calculateServerPublicKey be v b) | _ => illTyped)
  else if n = "calculate_u" then some (fun vs => match vs with
    | [.bytes A, .bytes B] => .ok (.bytes (calculateU C A B)) | _ => illTyped)
  else if n = "calculate_S" then some (fun vs => match vs with
    | [.bytes A, .bytes v, .bytes u, .bytes b] => outBytes (calculateS be A v u b) | _ => illTyped)
  else if n = "calculate_interleaved" then some (fun vs => match vs with
    | [.bytes S] => outBytes (calculateInterleaved C S) | _ => illTyped)
  else if n = "calculate_x" then some (fun vs => match vs with
    | [.nstr u, .nstr p, .bytes s] => .ok (.bytes (calculateX C u.asRef p.asRef s)) | _ => illTyped)
  else if n = "calculate_client_public_key" then some (fun vs => match vs with
    | [.bytes a, .num g, .bytes nLE] => outKey (calculateClientPublicKey be a g nLE) | _ => illTyped)
  else if n = "calculate_client_S" then some (fun vs => match vs with
    | [.bytes B, .bytes x, .bytes a, .bytes u, .num g, .bytes nLE] => outBytes (calculateClientS be B x a u g nLE) | _ => illTyped)
  else if n = "calculate_client_proof_with_custom_value" then some (fun vs => match vs with
    | [.nstr u, .bytes K, .bytes A, .bytes B, .bytes s, .bytes nLE, .num g] => .ok (.bytes (calculateClientProofCustom C u.asRef K A B s nLE g))
    | _ => illTyped)
  else none

def selfVerifier (s : SrpVerifier) : Fields :=
  [("username", .nstr s.username), ("password_verifier", .bytes s.passwordVerifier), ("salt", .bytes s.salt)]
def selfProof (p : SrpProof) : Fields :=
  [("username", .nstr p.username), ("server_public_key", .bytes p.serverPublicKey), ("salt", .bytes p.salt),
   ("server_private_key", .bytes p.serverPrivateKey), ("password_verifier", .bytes p.passwordVerifier)]
def selfServer (s : SrpServer) : Fields :=
  [("username", .nstr s.username), ("session_key", .bytes s.sessionKey), ("reconnect_challenge_data", .bytes s.reconnectChallengeData)]
/-- struct VALUES list their fields sorted by name -/
def valProof (p : SrpProof) : AVal := .struct "SrpProof"
  [("password_verifier", .bytes p.passwordVerifier), ("salt", .bytes p.salt), ("server_private_key", .bytes p.serverPrivateKey),
   ("server_public_key", .bytes p.serverPublicKey), ("username", .nstr p.username)]
def valServer (s : SrpServer) : AVal := .struct "SrpServer"
  [("reconnect_challenge_data", .bytes s.reconnectChallengeData), ("session_key", .bytes s.sessionKey), ("username", .nstr s.username)]
def valMatchErr (e : MatchProofsError) : AVal := .struct "MatchProofsError"
  [("client_proof", .bytes e.clientProof), ("server_proof", .bytes e.serverProof)]


/-! ### the constructors of `SrpVerifier`: `Self::…` means the model's function of that name -/

def valVerifier (s : SrpVerifier) : AVal := .struct "SrpVerifier"
  [("password_verifier", .bytes s.passwordVerifier), ("salt", .bytes s.salt), ("username", .nstr s.username)]

/-- the outcome of a run without the text of a panic message (the model names panic sites by file and line) -/
def outcomeOf {α : Type} : Out α → Option α
  | .ok a => some a
  | .panic _ => none

def srvPrims (C : Crypto) (be : Backend) : Prims := fun n =>
  if n = "Self::from_database_values" then some (fun vs => match vs with
    | [.nstr u, .bytes v, .bytes s] => .ok (valVerifier (SrpVerifier.fromDatabaseValues u v s)) | _ => illTyped)
  else if n = "Self::with_specific_salt" then some (fun vs => match vs with
    | [.nstr u, .nstr p, .bytes s] => (SrpVerifier.fromUsernameAndPassword C be u p s).bind (fun r => .ok (valVerifier r)) | _ => illTyped)
  else if n = "Self::with_specific_private_key" then some (fun vs => match vs with
    | [.struct _ [("username", .nstr u), ("password_verifier", .bytes v), ("salt", .bytes s)], .bytes b] =>
      (SrpVerifier.withSpecificPrivateKey be ⟨u, v, s⟩ b).bind (fun r => match r with
        | .error e => .ok (.err (pkErrVal e)) | .ok p => .ok (.ok (valProof p)))
    | _ => illTyped)
  else srpPrims C be n


end WowSrp
