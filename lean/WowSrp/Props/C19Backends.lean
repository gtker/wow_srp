/-
C19 (continued) — the agreement of the two big-integer back ends on `modpow`, PROVED from separate,
library-faithful definitions instead of assumed by a shared one.

`Backend.modpow` (`Model/Deps.lean`) is one definition used for both back ends, so `C19_modpow_agree`
(`Props/C19.lean`) by itself says nothing about the libraries. Here:

* `numModpow`  (`Model/BigIntLib.lean`) follows num-bigint 0.4 `BigInt::modpow` line by line
  (zero-modulus assert, power of the MAGNITUDE, early return on zero, `m - r` for a negative base with an
  odd exponent);
* `rugModpow` follows the `srp-fast-math` branch of /repo/src/bigint.rs over rug's `secure_pow_mod`
  (panics unless exponent > 0 and modulus odd) and `pow_mod(..).unwrap()` (`Err` iff zero modulus), both
  with GMP's value: the Euclidean residue of the INTEGER power;

and each is proved EQUAL (panic site label included) to `Backend.modpow` for that back end, for all
bases (negative included), all exponents (zero included) and all moduli (zero, one, even included).
Every theorem about `Backend.modpow` in the development therefore holds of the faithful definitions.

What remains ASSUMED about the libraries (trusted base, `DESIGN.md` §0.9), precisely:
1. num-bigint `BigUint::modpow(x, e, m)` returns `x^e mod m` for `m ≠ 0` (Montgomery for odd `m`, plain
   square-and-multiply for even `m`; for `m = 1` both give 0) and panics for `m = 0`.
2. GMP `mpz_powm` / `mpz_powm_sec` return the residue `0 ≤ r < m` of `base^exp` for `exp ≥ 0`, `m > 0`
   (for `mpz_powm_sec`: `exp > 0`, `m` odd), also for a negative base.
3. rug's `pow_mod` returns `Err` for a non-negative exponent iff the modulo is zero, and `secure_pow_mod`
   panics iff `exponent ≤ 0` or the modulo is even (its documented panics; `xmpz::powm_sec`).
4. `from_bytes_le` / `from_digits(.., LsfLe)` both read a little-endian byte string as the natural number
   `ofLE` (SHARED by definition in the model: `ofLE`), and `+`, `*`, `-` are integer arithmetic in both.
5. `%` (`Rem`) is SHARED by definition (`remOut`): on non-negative operands — the only ones it is
   applied to in this crate — it is the mathematical remainder in both libraries, and both panic on a
   zero divisor.
6. `to_bytes_le` is NOT shared: `Backend.toBytesLe .num` is num-bigint's (`[0]` for zero, else minimal
   little-endian bytes), `Backend.toBytesLe .rug` is rug's `to_digits(LsfLe)` (`[]` for zero, else the
   same bytes); `C19_toBytesLe_faithful` below ties them to the per-library definitions and
   `C19_bytes_agree` (`Props/C19.lean`) proves agreement after the fixed-size copy.
-/
import WowSrp.Lemmas.BigIntLib
import WowSrp.Props.C19
namespace WowSrp

/-- **the sign fix-up is the Euclidean residue**: for a negative base and an odd exponent,
    `(base^e) mod m` (non-negative residue) is `m - (|base|^e % m)` when `|base|^e % m ≠ 0`, and `0`
    otherwise -/
theorem C19_neg_base_sign_fixup (base : Int) (e m : Nat) (hm : 0 < m) (hb : base < 0) (he : e % 2 = 1) :
    (base.natAbs ^ e % m ≠ 0 → (base ^ e) % (m : Int) = ((m - base.natAbs ^ e % m : Nat) : Int)) ∧
    (base.natAbs ^ e % m = 0 → (base ^ e) % (m : Int) = 0) := by
  have h := neg_base_odd_pow_emod base e m hm hb he
  exact ⟨fun hne => by rw [h, if_neg hne], fun h0 => by rw [h, if_pos h0]⟩

/-- in every other case (non-negative base, or even exponent) the residue is the magnitude's -/
theorem C19_no_sign_fixup (base : Int) (e m : Nat) (h : 0 ≤ base ∨ e % 2 = 0) :
    (base ^ e) % (m : Int) = ((base.natAbs ^ e % m : Nat) : Int) :=
  no_sign_pow_emod base e m h

/-- **num-bigint's `BigInt::modpow` is the shared definition** — literally, panic label included; all
    bases, exponents, moduli -/
theorem C19_num_modpow_faithful (base : Int) (e m : Nat) :
    numModpow base e m = Backend.modpow .num base e m := by
  by_cases hm : m = 0
  · subst hm; rfl
  · rw [numModpow_eq base e m (Nat.pos_of_ne_zero hm), Backend.modpow_ok .num base e m (Nat.pos_of_ne_zero hm)]

/-- rug's `pow_mod` for a non-negative exponent: `Err` iff zero modulus, else the shared value -/
theorem C19_rug_pow_mod (base : Int) (e m : Nat) :
    (rugPowMod base e m = none ↔ m = 0) ∧
    (0 < m → rugPowMod base e m = some (modpowVal base e m)) := by
  unfold rugPowMod
  refine ⟨?_, fun hm => ?_⟩
  · split <;> simp [*]
  · rw [if_neg (by omega), gmpPowm_eq_modpowVal base e m hm]

/-- rug's `secure_pow_mod`: panics exactly outside "exponent > 0 and modulus odd", else the shared
    value -/
theorem C19_rug_secure_pow_mod (base : Int) (e m : Nat) :
    ((∃ s, rugSecurePowMod base e m = .panic s) ↔ ¬ (e > 0 ∧ m % 2 = 1)) ∧
    (e > 0 ∧ m % 2 = 1 → rugSecurePowMod base e m = .ok (modpowVal base e m)) := by
  unfold rugSecurePowMod
  refine ⟨?_, fun h => ?_⟩
  · by_cases h1 : e > 0
    · by_cases h2 : m % 2 = 1
      · simp [h1, h2]
      · simp [h1, h2]
    · simp [h1]
  · have hm : 0 < m := by omega
    rw [if_neg (by omega), if_neg (by omega), gmpPowm_eq_modpowVal base e m hm]

/-- **the `srp-fast-math` body of `Integer::modpow` is the shared definition** — literally, panic label
    included; all bases, exponents, moduli. In particular the `secure_pow_mod` panics are unreachable
    (the guard is exactly their negation) and the `unwrap` fails exactly for a zero modulus. -/
theorem C19_rug_modpow_faithful (base : Int) (e m : Nat) :
    rugModpow base e m = Backend.modpow .rug base e m := by
  unfold rugModpow
  by_cases hg : e > 0 ∧ m % 2 = 1
  · rw [if_pos hg, (C19_rug_secure_pow_mod base e m).2 hg, Backend.modpow_ok .rug base e m (by omega)]
  · rw [if_neg hg]
    by_cases hm : m = 0
    · subst hm; rfl
    · have hpos : 0 < m := Nat.pos_of_ne_zero hm
      rw [(C19_rug_pow_mod base e m).2 hpos, Backend.modpow_ok .rug base e m hpos]

/-- **the back ends agree, from the library semantics**: the num-bigint route and the rug route — two
    different definitions — return the same number whenever either returns one, panic on exactly the
    same inputs (a zero modulus and nothing else), and for a positive modulus both return the
    non-negative residue of the integer power -/
theorem C19_backends_agree_from_library_semantics (base : Int) (e m : Nat) :
    (numModpow base e m).sameOutcome (rugModpow base e m) ∧
    (∀ r, numModpow base e m = .ok r ↔ rugModpow base e m = .ok r) ∧
    ((∃ s, numModpow base e m = .panic s) ↔ m = 0) ∧
    ((∃ s, rugModpow base e m = .panic s) ↔ m = 0) ∧
    (0 < m → ∃ r : Nat, numModpow base e m = .ok r ∧ rugModpow base e m = .ok r ∧ r < m ∧
      (r : Int) = (base ^ e) % (m : Int)) := by
  rw [C19_num_modpow_faithful, C19_rug_modpow_faithful]
  refine ⟨C19_modpow_sameOutcome base e m, fun r => C19_modpow_agree base e m r,
    C19_modpow_panic_iff .num base e m, C19_modpow_panic_iff .rug base e m, fun hm => ?_⟩
  exact ⟨_, Backend.modpow_ok .num base e m hm, Backend.modpow_ok .rug base e m hm,
    modpowVal_lt base e m hm, modpowVal_spec base e m hm⟩

/-- for a positive modulus the two library routes are literally equal -/
theorem C19_backends_agree_eq (base : Int) (e m : Nat) (hm : 0 < m) :
    numModpow base e m = rugModpow base e m := by
  rw [C19_num_modpow_faithful, C19_rug_modpow_faithful, Backend.modpow_indep .rug base e m hm]

/-- **why the guard in /repo/src/bigint.rs is needed**: the pre-fix body (`secure_pow_mod`
    unconditionally) panics for every zero exponent and every even modulus, where num-bigint returns a
    value whenever the modulus is non-zero — the two back ends then DISAGREE -/
theorem C19_prefix_rug_diverges (base : Int) (e m : Nat) (hm : 0 < m) (h : e = 0 ∨ m % 2 = 0) :
    (∃ s, rugModpowPreFix base e m = .panic s) ∧ (∃ r, numModpow base e m = .ok r) ∧
    ¬ (numModpow base e m).sameOutcome (rugModpowPreFix base e m) := by
  have hp : ∃ s, rugModpowPreFix base e m = .panic s :=
    (C19_rug_secure_pow_mod base e m).1.2 (by omega)
  have hok : numModpow base e m = .ok (modpowVal base e m) := by
    rw [C19_num_modpow_faithful, Backend.modpow_ok .num base e m hm]
  obtain ⟨s, hs⟩ := hp
  refine ⟨⟨s, hs⟩, ⟨_, hok⟩, ?_⟩
  rw [hok, hs]
  exact id

/-- `to_bytes_le`: the two branches of `Backend.toBytesLe` ARE the two libraries' separate behaviours
    (`Model/BigIntLib.lean`: num-bigint `BigUint::to_bytes_le` gives `[0]` for zero, rug's
    `to_digits(LsfLe)` gives `[]`); they differ exactly at zero and denote the same number -/
theorem C19_toBytesLe_faithful (n : Nat) :
    Backend.toBytesLe .num n = numToBytesLe n ∧ Backend.toBytesLe .rug n = rugToDigitsLsfLe n ∧
    (numToBytesLe n = rugToDigitsLsfLe n ↔ n ≠ 0) ∧
    numToBytesLe 0 = [0] ∧ rugToDigitsLsfLe 0 = [] ∧
    ofLE (numToBytesLe n) = n ∧ ofLE (rugToDigitsLsfLe n) = n := by
  refine ⟨rfl, rfl, ?_, rfl, toLE_zero, Backend.ofLE_toBytesLe .num n, Backend.ofLE_toBytesLe .rug n⟩
  unfold numToBytesLe rugToDigitsLsfLe
  by_cases h : n = 0
  · subst h; rw [toLE_zero]; simp
  · simp [h]

/-- negative base, odd exponent, odd modulus (`secure_pow_mod` route): `(-3)^5 = -243 ≡ 10 (mod 23)`;
    num-bigint: `243 % 23 = 13`, `23 - 13 = 10` -/
example : numModpow (-3) 5 23 = .ok 10 ∧ rugModpow (-3) 5 23 = .ok 10 ∧
    rugSecurePowMod (-3) 5 23 = .ok 10 := by decide
/-- negative base, odd exponent, EVEN modulus (`pow_mod` route): `-243 ≡ 21 (mod 22)`; pre-fix rug panics -/
example : numModpow (-3) 5 22 = .ok 21 ∧ rugModpow (-3) 5 22 = .ok 21 ∧
    rugModpowPreFix (-3) 5 22 = .panic "rug secure_pow_mod: modulo not odd" := by decide
/-- negative base, even exponent: no fix-up -/
example : numModpow (-3) 4 23 = .ok 12 ∧ rugModpow (-3) 4 23 = .ok 12 := by decide
/-- negative base, odd exponent, magnitude residue zero: the early return, not `m - 0 = m` -/
example : numModpow (-6) 3 9 = .ok 0 ∧ rugModpow (-6) 3 9 = .ok 0 := by decide
/-- exponent 0 (`pow_mod` route; pre-fix rug panics) -/
example : numModpow (-3) 0 23 = .ok 1 ∧ rugModpow (-3) 0 23 = .ok 1 ∧
    rugModpowPreFix (-3) 0 23 = .panic "rug secure_pow_mod: exponent not greater than zero" := by decide
/-- modulus 1 (odd: `secure_pow_mod` route for a positive exponent), also with exponent 0 -/
example : numModpow (-3) 5 1 = .ok 0 ∧ rugModpow (-3) 5 1 = .ok 0 ∧
    numModpow (-3) 0 1 = .ok 0 ∧ rugModpow (-3) 0 1 = .ok 0 ∧ numModpow 0 0 1 = .ok 0 := by decide
/-- modulus 0: both panic (num-bigint's assert; rug's `unwrap` of `Err`), `pow_mod` itself returns `Err` -/
example : numModpow (-3) 5 0 = .panic "num-bigint modpow: zero modulus" ∧
    rugModpow (-3) 5 0 = .panic "rug pow_mod: zero modulus" ∧ rugPowMod (-3) 5 0 = none ∧
    rugModpow (-3) 0 0 = .panic "rug pow_mod: zero modulus" := by decide
/-- zero base -/
example : numModpow 0 5 23 = .ok 0 ∧ rugModpow 0 5 23 = .ok 0 ∧
    numModpow 0 0 23 = .ok 1 ∧ rugModpow 0 0 23 = .ok 1 := by decide
/-- the hypotheses of `C19_prefix_rug_diverges` and `C19_neg_base_sign_fixup` are satisfiable -/
example : ((0 : Nat) < 22 ∧ 22 % 2 = 0) ∧ ((-3 : Int) < 0 ∧ 5 % 2 = 1 ∧ (-3 : Int).natAbs ^ 5 % 23 ≠ 0) := by
  decide

#print axioms C19_neg_base_sign_fixup
#print axioms C19_no_sign_fixup
#print axioms C19_num_modpow_faithful
#print axioms C19_rug_pow_mod
#print axioms C19_rug_secure_pow_mod
#print axioms C19_rug_modpow_faithful
#print axioms C19_backends_agree_from_library_semantics
#print axioms C19_backends_agree_eq
#print axioms C19_prefix_rug_diverges
#print axioms C19_toBytesLe_faithful

end WowSrp
