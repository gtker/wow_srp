/-
C09 — additional RFC 6229 test vectors for the Spec RC4 (TESTS, not property theorems; kernel
evaluated, on the packed form of `Lemmas/Eval.lean`). Via `C09_rc4_refines` they hold for the model as well.
-/
import WowSrp.Lemmas.Eval
namespace WowSrp

/-- RFC 6229, 56-bit key 0x01020304050607, offset 0 -/
example : Spec.Rc4.keystream 16 (Spec.Rc4.init [1, 2, 3, 4, 5, 6, 7]) =
    [0x29, 0x3f, 0x02, 0xd4, 0x7f, 0x37, 0xc9, 0xb6, 0x33, 0xf2, 0xaf, 0x52, 0x85, 0xfe, 0xb4, 0x6b] := by
  rw [Spec.Packed.Rc4.init_eq, Spec.Packed.Rc4.keystream_eq]
  decide +kernel

/-- RFC 6229, 128-bit key 0x0102…10, offset 0 -/
example : Spec.Rc4.keystream 16 (Spec.Rc4.init ((List.range 16).map (· + 1))) =
    [0x9a, 0xc7, 0xcc, 0x9a, 0x60, 0x9d, 0x1e, 0xf7, 0xb2, 0x93, 0x28, 0x99, 0xcd, 0xe4, 0x1b, 0x97] := by
  rw [Spec.Packed.Rc4.init_eq, Spec.Packed.Rc4.keystream_eq]
  decide +kernel

/- RFC 6229, 40-bit key 0x0102030405, offsets 240 and 256 (keystream after a 240-byte drop;
   the 8-bit counter `i` wraps inside this window) -/
set_option maxRecDepth 10000 in
example : Spec.rc4DropKeystream [1, 2, 3, 4, 5] 240 32 =
    [0x28, 0xcb, 0x11, 0x32, 0xc9, 0x6c, 0xe2, 0x86, 0x42, 0x1d, 0xca, 0xad, 0xb8, 0xb6, 0x9e, 0xae,
     0x1c, 0xfc, 0xf6, 0x2b, 0x03, 0xed, 0xdb, 0x64, 0x1d, 0x77, 0xdf, 0xcf, 0x7f, 0x8d, 0x8c, 0x93] := by
  rw [Spec.rc4DropKeystream, Spec.Packed.Rc4.init_eq, Spec.Packed.Rc4.advance_eq, Spec.Packed.Rc4.keystream_eq]
  decide +kernel

end WowSrp
