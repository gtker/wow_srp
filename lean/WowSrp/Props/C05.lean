/-
C05 — reconnect proofs verify only against the current, single-use challenge.
Model: `SrpServer.verifyReconnectionAttempt`, `SrpClient.calculateReconnectValues`,
`calculateReconnectProof` (WowSrp/Model/Srp.lean). All theorems hold for an arbitrary `C : Crypto`;
no property of SHA-1 is assumed anywhere (DESIGN §2.2): "accepted although a field differs"
theorems hand back an explicit collision pair.

The scenarios are defined here: `runHistory` runs a list of attempts, each with the draw that follows
it, against one server object; `runHistoryRng` takes the draws from the front of an RNG stream
(`drawChallenge` is `ReconnectData::randomize_data`), and `C05_history_rng` reduces it to `runHistory`.

Residual, stated and not hidden: the server challenge is whatever the RNG draws. If the RNG hands
out the same 128-bit challenge at two positions of a history, a pair captured at the first position
is the *correct* answer at the second one and is accepted (`C05_history` says exactly that). That
`ThreadRng` does not repeat is outside any model (C15).
-/
import WowSrp.Model.Srp
import WowSrp.Model.Rng
import WowSrp.Lemmas.Layout
import WowSrp.Lemmas.Eval
namespace WowSrp
open WowSrp.Layout

/-- one reconnect attempt as the server sees it: the client's challenge bytes, the presented proof,
    and the 16 bytes the server draws *after* that attempt -/
abbrev Attempt := Bytes × Bytes × Bytes

/-- a history of reconnect attempts against one server object: the verdict of every attempt -/
def runHistory (C : Crypto) : SrpServer → List Attempt → List Bool
  | _, [] => []
  | s, (cd, proof, draw) :: rest =>
    let r := s.verifyReconnectionAttempt C cd proof draw
    r.1 :: runHistory C r.2 rest

def stateAfter (C : Crypto) : SrpServer → List Attempt → SrpServer
  | s, [] => s
  | s, (cd, proof, draw) :: rest => stateAfter C (s.verifyReconnectionAttempt C cd proof draw).2 rest

/-- the challenge on offer before attempt `i`: the one set at login for `i = 0`, otherwise the draw
    made after attempt `i - 1` -/
def challengeOnOffer (s : SrpServer) (h : List Attempt) : (i : Nat) → i < h.length → Bytes
  | 0, _ => s.reconnectChallengeData
  | j+1, hj => (h[j]'(Nat.lt_of_succ_lt hj)).2.2

/-- the same as a list: login challenge, then every draw -/
def offers (s : SrpServer) (h : List Attempt) : List Bytes :=
  s.reconnectChallengeData :: h.map (fun a => a.2.2)

/-- **verdict**: the attempt is accepted exactly when the presented proof equals
    SHA-1(username | client challenge | server challenge on offer | session key); the comparison is
    over the whole byte list -/
theorem C05_verdict (C : Crypto) (s : SrpServer) (cd proof draw : Bytes) :
    (s.verifyReconnectionAttempt C cd proof draw).1 =
      (calculateReconnectProof C s.username.asRef cd s.reconnectChallengeData s.sessionKey == proof) := rfl

/-- **proof layout**: username | client challenge | server challenge | session key -/
theorem C05_proof_layout (C : Crypto) (U cd sd K : Bytes) :
    calculateReconnectProof C U cd sd K = C.sha1 (U ++ cd ++ sd ++ K) := rfl

theorem C05_verdict_iff (C : Crypto) (s : SrpServer) (cd proof draw : Bytes) :
    (s.verifyReconnectionAttempt C cd proof draw).1 = true ↔
      proof = C.sha1 (s.username.asRef ++ cd ++ s.reconnectChallengeData ++ s.sessionKey) := by
  simp only [SrpServer.verifyReconnectionAttempt, calculateReconnectProof, beq_iff_eq]
  exact eq_comm

/-- **refresh**: whatever the verdict, the challenge is replaced by the new draw; username and
    session key stay -/
theorem C05_refresh (C : Crypto) (s : SrpServer) (cd proof draw : Bytes) :
    (s.verifyReconnectionAttempt C cd proof draw).2 = { s with reconnectChallengeData := draw } := rfl

theorem runHistory_length (C : Crypto) (s : SrpServer) (h : List Attempt) :
    (runHistory C s h).length = h.length := by
  induction h generalizing s with
  | nil => rfl
  | cons a rest ih => obtain ⟨cd, proof, draw⟩ := a; simp [runHistory, ih]

/-- the whole verdict list at once: attempt `i` is judged against offer `i`, where the offers are the
    login challenge followed by the draws -/
theorem C05_history_list (C : Crypto) (s : SrpServer) (h : List Attempt) :
    runHistory C s h =
      List.zipWith (fun (a : Attempt) (c : Bytes) =>
        calculateReconnectProof C s.username.asRef a.1 c s.sessionKey == a.2.1) h (offers s h) := by
  induction h generalizing s with
  | nil => rfl
  | cons a rest ih =>
    obtain ⟨cd, proof, draw⟩ := a
    simp only [runHistory, offers, List.map_cons, List.zipWith_cons_cons]
    rw [ih]
    rfl

theorem offers_getElem (s : SrpServer) (h : List Attempt) (i : Nat) (hi : i < h.length) :
    (offers s h)[i]'(by simp [offers]; omega) = challengeOnOffer s h i hi := by
  cases i with
  | zero => rfl
  | succ j => simp [offers, challengeOnOffer]

/-- **history**: in every history, attempt `i` is accepted iff its proof is the hash over the
    challenge on offer before attempt `i` — the login challenge for `i = 0`, the draw made after
    attempt `i - 1` otherwise — together with this attempt's client bytes and the server's username
    and session key. What happened at the other positions is irrelevant. -/
theorem C05_history (C : Crypto) (s : SrpServer) (h : List Attempt) (i : Nat) (hi : i < h.length) :
    (runHistory C s h)[i]'(by rw [runHistory_length]; exact hi) = true ↔
      h[i].2.1 = C.sha1 (s.username.asRef ++ h[i].1 ++ challengeOnOffer s h i hi ++ s.sessionKey) := by
  simp only [C05_history_list, List.getElem_zipWith, beq_iff_eq]
  rw [offers_getElem s h i hi]
  exact eq_comm

/-- after any history the server holds the same username and session key, and the challenge is the
    last draw (the login challenge if there was no attempt) -/
theorem C05_state_after (C : Crypto) (s : SrpServer) (h : List Attempt) :
    stateAfter C s h =
      { s with reconnectChallengeData := (offers s h).getLast (by simp [offers]) } := by
  induction h generalizing s with
  | nil => rfl
  | cons a rest ih =>
    obtain ⟨cd, proof, draw⟩ := a
    rw [stateAfter, ih, C05_refresh]
    simp only [offers, List.map_cons, List.getLast_cons_cons]

/-- **the legitimate client reconnects forever**: a client holding the same username text and
    session key, answering the challenge on offer with any client challenge bytes `cd` of its own, is
    accepted at every position of every history — whatever was presented, accepted or refused, at the
    other positions -/
theorem C05_legit_forever (C : Crypto) (s : SrpServer) (c : SrpClient) (h : List Attempt)
    (i : Nat) (hi : i < h.length) (cd : Bytes)
    (hu : c.username.asRef = s.username.asRef) (hk : c.sessionKey = s.sessionKey)
    (hans : (h[i].1, h[i].2.1) = c.calculateReconnectValues C (challengeOnOffer s h i hi) cd) :
    (runHistory C s h)[i]'(by rw [runHistory_length]; exact hi) = true := by
  rw [C05_history]
  simp only [SrpClient.calculateReconnectValues, calculateReconnectProof, Prod.mk.injEq] at hans
  rw [hans.2, hans.1, hu, hk]

/-- in particular a run of `n` honest reconnects in a row is accepted `n` times -/
theorem C05_legit_run (C : Crypto) (s : SrpServer) (c : SrpClient)
    (hu : c.username.asRef = s.username.asRef) (hk : c.sessionKey = s.sessionKey)
    (rounds : List (Bytes × Bytes)) :   -- (client challenge, server's next draw) per round
    ∀ s' : SrpServer, s'.username = s.username → s'.sessionKey = s.sessionKey →
    runHistory C s' (List.zipWith (fun (r : Bytes × Bytes) (ch : Bytes) =>
        ((c.calculateReconnectValues C ch r.1).1, (c.calculateReconnectValues C ch r.1).2, r.2))
        rounds (s'.reconnectChallengeData :: rounds.map (·.2)))
      = List.replicate rounds.length true := by
  induction rounds with
  | nil => intro s' _ _; rfl
  | cons r rest ih =>
    intro s' h1 h2
    simp only [List.map_cons, List.zipWith_cons_cons, runHistory, List.length_cons,
      List.replicate_succ]
    congr 1
    · simp [SrpServer.verifyReconnectionAttempt, SrpClient.calculateReconnectValues, hu, hk, h1, h2]
    · exact ih { s' with reconnectChallengeData := r.2 } h1 h2

/-- **any changed proof bit is refused outright** (no hash reasoning): a presented proof different
    from the expected value — in particular each of its 160 single-bit changes — gets verdict `false` -/
theorem C05_changed_proof_refused (C : Crypto) (s : SrpServer) (cd proof' draw : Bytes)
    (hne : proof' ≠ calculateReconnectProof C s.username.asRef cd s.reconnectChallengeData s.sessionKey) :
    (s.verifyReconnectionAttempt C cd proof' draw).1 = false :=
  Bool.eq_false_iff.2 fun h => hne ((C05_verdict_iff C s cd proof' draw).1 h)

theorem C05_flipped_proof_refused (C : Crypto) (s : SrpServer) (cd draw : Bytes) (i : Nat)
    (hi : i < 8 * (calculateReconnectProof C s.username.asRef cd s.reconnectChallengeData s.sessionKey).length) :
    (s.verifyReconnectionAttempt C cd
      (flipBit (calculateReconnectProof C s.username.asRef cd s.reconnectChallengeData s.sessionKey) i) draw).1
      = false :=
  C05_changed_proof_refused C s cd _ draw (flipBit_ne _ i hi)

/-- with real output lengths that is 160 bit positions -/
theorem C05_flipped_proof_refused_160 (C : Crypto) (hC : C.WF) (s : SrpServer) (cd draw : Bytes) (i : Nat)
    (hi : i < 160) :
    (s.verifyReconnectionAttempt C cd
      (flipBit (calculateReconnectProof C s.username.asRef cd s.reconnectChallengeData s.sessionKey) i) draw).1
      = false :=
  C05_changed_proof_refused C s cd _ draw (flipBit_sha1_ne hC _ hi)

/-- acceptance of a proof made as the reconnect hash over another byte string is a collision of the
    two strings; the theorems below only say why the strings differ -/
theorem C05_accepted_collision (C : Crypto) (s : SrpServer) (cd draw U' cd' c' K' : Bytes)
    (hne : s.username.asRef ++ cd ++ s.reconnectChallengeData ++ s.sessionKey ≠ U' ++ cd' ++ c' ++ K')
    (hacc : (s.verifyReconnectionAttempt C cd (calculateReconnectProof C U' cd' c' K') draw).1 = true) :
    ∃ m₁ m₂, m₁ = s.username.asRef ++ cd ++ s.reconnectChallengeData ++ s.sessionKey ∧
      m₂ = U' ++ cd' ++ c' ++ K' ∧ m₁ ≠ m₂ ∧ C.sha1 m₁ = C.sha1 m₂ :=
  ⟨_, _, rfl, rfl, hne, ((C05_verdict_iff ..).1 hacc).symm⟩

/-- **acceptance of a proof made from other inputs exhibits a collision** (general form): the
    presented proof was computed as the reconnect hash over (U', cd', c', K'); the server, holding
    (U, K), challenge `c` on offer, is handed client bytes `cd`, and accepts. If the two quadruples
    differ in any component, the two hash inputs are an explicit SHA-1 collision pair.
    Widths as in the Rust types: challenges 16 bytes, session keys 40 bytes; usernames of any length. -/
theorem C05_other_inputs_collision (C : Crypto) (s : SrpServer) (cd draw U' cd' c' K' : Bytes)
    (hcd : cd.length = 16) (hcd' : cd'.length = 16)
    (hc : s.reconnectChallengeData.length = 16) (hc' : c'.length = 16)
    (hK : s.sessionKey.length = 40) (hK' : K'.length = 40)
    (hdiff : (U', cd', c', K') ≠ (s.username.asRef, cd, s.reconnectChallengeData, s.sessionKey))
    (hacc : (s.verifyReconnectionAttempt C cd (calculateReconnectProof C U' cd' c' K') draw).1 = true) :
    ∃ m₁ m₂, m₁ = s.username.asRef ++ cd ++ s.reconnectChallengeData ++ s.sessionKey ∧
      m₂ = U' ++ cd' ++ c' ++ K' ∧ m₁ ≠ m₂ ∧ C.sha1 m₁ = C.sha1 m₂ := by
  refine C05_accepted_collision C s cd draw U' cd' c' K' (fun heq => ?_) hacc
  obtain ⟨heq, h4⟩ := List.append_inj' heq (hK.trans hK'.symm)
  obtain ⟨heq, h3⟩ := List.append_inj' heq (hc.trans hc'.symm)
  obtain ⟨h1, h2⟩ := List.append_inj' heq (hcd.trans hcd'.symm)
  exact hdiff (by rw [h1, h2, h3, h4])

/-- **replay**: a captured pair `(cd, proof)` that was the correct answer while challenge `c_j` was on
    offer is presented again while a different challenge `c_i` is on offer. If it is accepted, the two
    hash inputs below are different byte strings with the same SHA-1. -/
theorem C05_replay (C : Crypto) (s : SrpServer) (cd proof draw c_j : Bytes)
    (hcd : cd.length = 16) (hci : s.reconnectChallengeData.length = 16) (hcj : c_j.length = 16)
    (hK : s.sessionKey.length = 40)
    (hcaptured : proof = calculateReconnectProof C s.username.asRef cd c_j s.sessionKey)
    (hne : s.reconnectChallengeData ≠ c_j)
    (hacc : (s.verifyReconnectionAttempt C cd proof draw).1 = true) :
    ∃ m₁ m₂, m₁ = s.username.asRef ++ cd ++ s.reconnectChallengeData ++ s.sessionKey ∧
      m₂ = s.username.asRef ++ cd ++ c_j ++ s.sessionKey ∧ m₁ ≠ m₂ ∧ C.sha1 m₁ = C.sha1 m₂ := by
  subst hcaptured
  exact C05_accepted_collision C s cd draw _ cd c_j _
    (fun e => hne (List.append_cancel_left (List.append_cancel_right e))) hacc

/-- replay inside a history: the pair presented at position `j` was correct there; the very same
    pair is presented again at position `i`, where another challenge is on offer, and is accepted ⇒
    explicit collision pair. (If the two challenges are equal — the RNG repeated a 128-bit value —
    the replay *is* accepted: see the header comment.) -/
theorem C05_replay_in_history (C : Crypto) (s : SrpServer) (h : List Attempt) (i j : Nat)
    (hi : i < h.length) (hj : j < h.length)
    (hsame : h[i].1 = h[j].1 ∧ h[i].2.1 = h[j].2.1)
    (hci : (challengeOnOffer s h i hi).length = 16) (hcj : (challengeOnOffer s h j hj).length = 16)
    (hne : challengeOnOffer s h i hi ≠ challengeOnOffer s h j hj)
    (haccj : (runHistory C s h)[j]'(by rw [runHistory_length]; exact hj) = true)
    (hacci : (runHistory C s h)[i]'(by rw [runHistory_length]; exact hi) = true) :
    ∃ m₁ m₂, m₁ = s.username.asRef ++ h[j].1 ++ challengeOnOffer s h i hi ++ s.sessionKey ∧
      m₂ = s.username.asRef ++ h[j].1 ++ challengeOnOffer s h j hj ++ s.sessionKey ∧
      m₁ ≠ m₂ ∧ C.sha1 m₁ = C.sha1 m₂ := by
  rw [C05_history C s h j hj] at haccj
  rw [C05_history C s h i hi] at hacci
  rw [hsame.1, hsame.2] at hacci
  exact ⟨_, _, rfl, rfl, fun e => hne (List.append_cancel_left (List.append_cancel_right e)),
    hacci.symm.trans haccj⟩

/-- **wrong session key**: a proof made with another 40-byte key that is accepted ⇒ collision pair -/
theorem C05_wrong_key (C : Crypto) (s : SrpServer) (cd draw K' : Bytes)
    (hcd : cd.length = 16) (hc : s.reconnectChallengeData.length = 16)
    (hK : s.sessionKey.length = 40) (hK' : K'.length = 40) (hne : K' ≠ s.sessionKey)
    (hacc : (s.verifyReconnectionAttempt C cd
      (calculateReconnectProof C s.username.asRef cd s.reconnectChallengeData K') draw).1 = true) :
    ∃ m₁ m₂, m₁ = s.username.asRef ++ cd ++ s.reconnectChallengeData ++ s.sessionKey ∧
      m₂ = s.username.asRef ++ cd ++ s.reconnectChallengeData ++ K' ∧ m₁ ≠ m₂ ∧ C.sha1 m₁ = C.sha1 m₂ :=
  C05_accepted_collision C s cd draw _ cd _ K' (fun e => hne (List.append_cancel_left e).symm) hacc

/-- **wrong username** (of any length, also one that is a prefix or an extension of the right one):
    accepted ⇒ collision pair -/
theorem C05_wrong_username (C : Crypto) (s : SrpServer) (cd draw U' : Bytes)
    (hcd : cd.length = 16) (hc : s.reconnectChallengeData.length = 16)
    (hK : s.sessionKey.length = 40) (hne : U' ≠ s.username.asRef)
    (hacc : (s.verifyReconnectionAttempt C cd
      (calculateReconnectProof C U' cd s.reconnectChallengeData s.sessionKey) draw).1 = true) :
    ∃ m₁ m₂, m₁ = s.username.asRef ++ cd ++ s.reconnectChallengeData ++ s.sessionKey ∧
      m₂ = U' ++ cd ++ s.reconnectChallengeData ++ s.sessionKey ∧ m₁ ≠ m₂ ∧ C.sha1 m₁ = C.sha1 m₂ :=
  C05_accepted_collision C s cd draw U' cd _ _
    (fun e => hne (List.append_cancel_right (List.append_cancel_right (List.append_cancel_right e))).symm)
    hacc

/-- **changed client challenge**: the proof was made over `cd'` but the server is handed `cd ≠ cd'`
    (e.g. one bit of the client challenge changed in transit): accepted ⇒ collision pair -/
theorem C05_changed_client_data (C : Crypto) (s : SrpServer) (cd cd' draw : Bytes)
    (hcd : cd.length = 16) (hcd' : cd'.length = 16) (hc : s.reconnectChallengeData.length = 16)
    (hK : s.sessionKey.length = 40) (hne : cd' ≠ cd)
    (hacc : (s.verifyReconnectionAttempt C cd
      (calculateReconnectProof C s.username.asRef cd' s.reconnectChallengeData s.sessionKey) draw).1 = true) :
    ∃ m₁ m₂, m₁ = s.username.asRef ++ cd ++ s.reconnectChallengeData ++ s.sessionKey ∧
      m₂ = s.username.asRef ++ cd' ++ s.reconnectChallengeData ++ s.sessionKey ∧
      m₁ ≠ m₂ ∧ C.sha1 m₁ = C.sha1 m₂ :=
  C05_accepted_collision C s cd draw _ cd' _ _
    (fun e => hne (List.append_cancel_left (List.append_cancel_right (List.append_cancel_right e))).symm)
    hacc

/-! ### replay and the RNG stream: the distinctness hypothesis is about the draws

`C05_replay_in_history` has the hypothesis `hne : challengeOnOffer … i ≠ challengeOnOffer … j`. Here the
challenges are tied to the model of the RNG (`Model/Rng.lean`, `drawBytes`): after every attempt —
whatever the verdict — the server takes the next `Gen.reconnectDataLength` = 16 bytes from the front of
the stream (`ReconnectData::randomize_data`). The draws of a history of `n` attempts are therefore the
first `n` consecutive 16-byte segments of the stream, `r₀, r₁, …`, and the challenge on offer before
attempt `i` is the login challenge for `i = 0` and `r_(i-1)` otherwise. -/

/-- `ReconnectData::randomize_data`: the next `Gen.reconnectDataLength` bytes of the RNG stream -/
def drawChallenge (rng : Bytes) : Option (Bytes × Bytes) := drawBytes Gen.reconnectDataLength rng

/-- a list of presented pairs `(client challenge bytes, proof)` run against one server object and the
    RNG stream, in program order: compare, then draw the next challenge from the front of the stream.
    Result: the verdicts and the unused rest of the stream; `none` = the stream ran out -/
def runHistoryRng (C : Crypto) : SrpServer → List (Bytes × Bytes) → Bytes → Option (List Bool × Bytes)
  | _, [], rng => some ([], rng)
  | s, (cd, proof) :: rest, rng =>
    match drawChallenge rng with
    | none => none
    | some (draw, rng') =>
      let r := s.verifyReconnectionAttempt C cd proof draw
      (runHistoryRng C r.2 rest rng').map fun (vs, out) => (r.1 :: vs, out)

/-- the first `n` consecutive 16-byte segments of a stream: `r₀ = bytes 0‥15`, `r₁ = bytes 16‥31`, … -/
def drawList : Nat → Bytes → List Bytes
  | 0, _ => []
  | n+1, rng => rng.take 16 :: drawList n (rng.drop 16)

/-- presented pairs together with the draw made after each of them: an `Attempt` history -/
def withDraws (pairs : List (Bytes × Bytes)) (draws : List Bytes) : List Attempt :=
  List.zipWith (fun p d => (p.1, p.2, d)) pairs draws

/-- tie to the source: a reconnect challenge is 16 bytes (`RECONNECT_CHALLENGE_DATA_LENGTH` of key.rs,
    from which `Gen.reconnectDataLength` is generated) -/
theorem C05_challenge_width : Gen.reconnectDataLength = 16 := by decide

@[simp] theorem drawList_length (n : Nat) (rng : Bytes) : (drawList n rng).length = n := by
  induction n generalizing rng with
  | zero => rfl
  | succ n ih => simp [drawList, ih]

/-- **the draws are the stream's segments**: draw `k` is bytes `16k ‥ 16k+15` of the stream -/
theorem C05_draws_are_segments (n : Nat) (rng : Bytes) (k : Nat) (hk : k < n) :
    (drawList n rng)[k]? = some ((rng.drop (16 * k)).take 16) := by
  induction n generalizing rng k with
  | zero => omega
  | succ n ih =>
    cases k with
    | zero => simp [drawList]
    | succ k =>
      simp only [drawList, List.getElem?_cons_succ]
      rw [ih (rng.drop 16) k (by omega), List.drop_drop]
      congr 3
      omega

/-- when the stream is long enough every draw has exactly 16 bytes -/
theorem C05_draws_width (n : Nat) (rng : Bytes) (hlen : 16 * n ≤ rng.length) :
    ∀ d ∈ drawList n rng, d.length = 16 := by
  intro d hd
  -- `d` is draw `k` for some `k < n`, a 16-byte window that ends inside the stream
  obtain ⟨k, hk, rfl⟩ := List.getElem_of_mem hd
  rw [drawList_length] at hk
  have hseg := C05_draws_are_segments n rng k hk
  rw [List.getElem?_eq_getElem (by rwa [drawList_length]), Option.some.injEq] at hseg
  rw [hseg, List.length_take, List.length_drop]
  omega

/-- **link to the `Attempt` histories of `runHistory`**: running `n` presented pairs against the stream
    succeeds iff the stream holds `16·n` bytes; the verdicts are those of the history whose draws are the
    first `n` segments of the stream, and exactly `16·n` bytes are consumed, from the front -/
theorem C05_history_rng (C : Crypto) (s : SrpServer) (pairs : List (Bytes × Bytes)) (rng : Bytes) :
    runHistoryRng C s pairs rng =
      if rng.length < 16 * pairs.length then none
      else some (runHistory C s (withDraws pairs (drawList pairs.length rng)),
                 rng.drop (16 * pairs.length)) := by
  induction pairs generalizing s rng with
  | nil => simp [runHistoryRng, withDraws, runHistory]
  | cons a rest ih =>
    obtain ⟨cd, proof⟩ := a
    -- one step draws 16 bytes: it stops if `len < 16`, the rest stops if `len - 16 < 16·n`;
    -- together that is `len < 16·(n + 1)`
    simp only [runHistoryRng, drawChallenge, drawBytes, C05_challenge_width, List.length_cons]
    by_cases hl : rng.length < 16
    · rw [if_pos hl, if_pos (by omega)]
    · simp only [if_neg hl]
      rw [ih, List.length_drop]
      by_cases hl2 : rng.length < 16 * (rest.length + 1)
      · rw [if_pos (by omega), if_pos hl2]; rfl
      · rw [if_neg (by omega), if_neg hl2]
        simp only [Option.map_some, drawList, withDraws, List.zipWith_cons_cons, runHistory,
          List.drop_drop]
        congr 3
        omega

theorem offers_withDraws (s : SrpServer) (pairs : List (Bytes × Bytes)) (draws : List Bytes)
    (hl : draws.length = pairs.length) :
    offers s (withDraws pairs draws) = s.reconnectChallengeData :: draws := by
  have h : (List.zip pairs draws).map Prod.snd = draws := List.map_snd_zip (Nat.le_of_eq hl)
  rw [List.zip_eq_zipWith, List.map_zipWith] at h
  rw [offers, withDraws, List.map_zipWith]
  exact congrArg _ h

/-- what is decided at one position of a run against the stream: the presented proof is compared with
    the hash over the offer at that position, the offers being the login challenge and then the draws -/
theorem runHistoryRng_getElem? {C : Crypto} {s : SrpServer} {pairs : List (Bytes × Bytes)} {rng rest : Bytes}
    {verdicts : List Bool} (hrun : runHistoryRng C s pairs rng = some (verdicts, rest))
    {i : Nat} {cd proof : Bytes} (hp : pairs[i]? = some (cd, proof)) :
    ∃ c, (s.reconnectChallengeData :: drawList pairs.length rng)[i]? = some c ∧
      verdicts[i]? = some (calculateReconnectProof C s.username.asRef cd c s.sessionKey == proof) := by
  rw [C05_history_rng] at hrun
  split at hrun
  · cases hrun
  · cases hrun
    obtain ⟨hi, _⟩ := List.getElem?_eq_some_iff.1 hp
    have hl := drawList_length pairs.length rng
    refine ⟨(s.reconnectChallengeData :: drawList pairs.length rng)[i]'(by simp; omega),
      List.getElem?_eq_getElem _, ?_⟩
    rw [C05_history_list, offers_withDraws s _ _ hl, List.getElem?_zipWith, withDraws, List.getElem?_zipWith, hp,
      List.getElem?_eq_getElem (by omega : i < (drawList pairs.length rng).length),
      List.getElem?_eq_getElem (by simp; omega : i < (s.reconnectChallengeData :: drawList pairs.length rng).length)]

/-- **a captured pair is never accepted a second time when the draws are distinct** (self-contained:
    the only hypotheses are about the RNG stream and about which pair is presented where).
    `pairs` are the `(client challenge, proof)` pairs presented, in order, to one server object `s`;
    the server's challenges come from the stream `rng` (`runHistoryRng`). If the login challenge and
    the draws `r₀, r₁, …` (the consecutive 16-byte segments of the stream, `drawList`) are pairwise
    distinct, then ANY pair `(cd, proof)` that is accepted at position `i` and presented again at any other
    position `j ≠ i` (earlier or later) is refused there — or the two hash inputs below, which differ
    exactly in the challenge that was on offer, are an explicit SHA-1 collision pair. -/
theorem C05_replay_refused_when_draws_distinct (C : Crypto) (s : SrpServer)
    (pairs : List (Bytes × Bytes)) (rng rest : Bytes) (verdicts : List Bool)
    (hrun : runHistoryRng C s pairs rng = some (verdicts, rest))
    (hdistinct : (s.reconnectChallengeData :: drawList pairs.length rng).Pairwise (· ≠ ·))
    (i j : Nat) (hij : i ≠ j) (cd proof : Bytes)
    (hpi : pairs[i]? = some (cd, proof)) (hpj : pairs[j]? = some (cd, proof))
    (hacc : verdicts[i]? = some true) :
    verdicts[j]? = some false ∨
    ∃ c_i c_j m₁ m₂,
      (s.reconnectChallengeData :: drawList pairs.length rng)[i]? = some c_i ∧
      (s.reconnectChallengeData :: drawList pairs.length rng)[j]? = some c_j ∧ c_i ≠ c_j ∧
      m₁ = s.username.asRef ++ cd ++ c_i ++ s.sessionKey ∧
      m₂ = s.username.asRef ++ cd ++ c_j ++ s.sessionKey ∧ m₁ ≠ m₂ ∧ C.sha1 m₁ = C.sha1 m₂ := by
  obtain ⟨c_i, hci, hvi⟩ := runHistoryRng_getElem? hrun hpi
  obtain ⟨c_j, hcj, hvj⟩ := runHistoryRng_getElem? hrun hpj
  -- `Pairwise (· ≠ ·)` is `Nodup`: different positions hold different offers
  have hne : c_i ≠ c_j := fun e =>
    hij ((List.getElem?_inj (List.getElem?_eq_some_iff.1 hci).1 hdistinct).1 (by rw [hci, hcj, e]))
  rw [hvi, Option.some.injEq, beq_iff_eq] at hacc
  rw [hvj, Option.some.injEq, beq_eq_false_iff_ne]
  by_cases hb : calculateReconnectProof C s.username.asRef cd c_j s.sessionKey = proof
  · exact Or.inr ⟨c_i, c_j, _, _, hci, hcj, hne, rfl, rfl,
      fun heq => hne (List.append_cancel_left (List.append_cancel_right heq)), hacc.trans hb.symm⟩
  · exact Or.inl hb

/-- **the hypothesis is necessary** (general form): if the SAME challenge is on offer before attempts
    `i` and `j` — the RNG repeated a 128-bit value, or repeated the login challenge — then the same pair
    gets the same verdict at both positions; in particular a pair accepted at `i` is accepted at `j` -/
theorem C05_replay_accepted_when_offers_equal (C : Crypto) (s : SrpServer)
    (pairs : List (Bytes × Bytes)) (rng rest : Bytes) (verdicts : List Bool)
    (hrun : runHistoryRng C s pairs rng = some (verdicts, rest))
    (i j : Nat) (cd proof c : Bytes)
    (hci : (s.reconnectChallengeData :: drawList pairs.length rng)[i]? = some c)
    (hcj : (s.reconnectChallengeData :: drawList pairs.length rng)[j]? = some c)
    (hpi : pairs[i]? = some (cd, proof)) (hpj : pairs[j]? = some (cd, proof)) :
    verdicts[j]? = verdicts[i]? ∧ (verdicts[i]? = some true → verdicts[j]? = some true) := by
  obtain ⟨c_i, hci', hvi⟩ := runHistoryRng_getElem? hrun hpi
  obtain ⟨c_j, hcj', hvj⟩ := runHistoryRng_getElem? hrun hpj
  have h : verdicts[j]? = verdicts[i]? := by
    rw [hvi, hvj, Option.some.inj (hci'.symm.trans hci), Option.some.inj (hcj'.symm.trans hcj)]
  exact ⟨h, h.trans⟩

/-- **the hypothesis is necessary**: if two draws are equal, `r_i = r_j`, the pair accepted
    at position `i + 1` (where `r_i` is on offer) is accepted at position `j + 1` as well -/
theorem C05_replay_accepted_when_draws_equal (C : Crypto) (s : SrpServer)
    (pairs : List (Bytes × Bytes)) (rng rest : Bytes) (verdicts : List Bool)
    (hrun : runHistoryRng C s pairs rng = some (verdicts, rest))
    (i j : Nat) (cd proof r : Bytes)
    (hri : (drawList pairs.length rng)[i]? = some r) (hrj : (drawList pairs.length rng)[j]? = some r)
    (hpi : pairs[i + 1]? = some (cd, proof)) (hpj : pairs[j + 1]? = some (cd, proof))
    (hacc : verdicts[i + 1]? = some true) :
    verdicts[j + 1]? = some true :=
  (C05_replay_accepted_when_offers_equal C s pairs rng rest verdicts hrun (i + 1) (j + 1) cd proof r
    (by simpa using hri) (by simpa using hrj) hpi hpj).2 hacc

section
private def u : NStr := ⟨[0x41, 0,0,0,0,0,0,0,0,0,0,0,0,0,0,0], 1⟩
private def k40 : Bytes := (List.range 40).map UInt8.ofNat
private def c0 : Bytes := List.replicate 16 7
private def c1 : Bytes := List.replicate 16 9
private def cd0 : Bytes := (List.range 16).map UInt8.ofNat
private def srv : SrpServer := ⟨u, k40, c0⟩
/-- SHA-1("A" | 00..0f | 07×16 | 00..27), the correct answer to the login challenge `c0` -/
private def good0 : Bytes :=
  [0x18, 0xf0, 0xf2, 0xa5, 0xb7, 0x02, 0xaf, 0x7e, 0x14, 0xe0, 0x6f, 0xde, 0x96, 0x58, 0xd5, 0x99, 0x58, 0x10, 0x42, 0x2f]

/-- on the real SHA-1: the correct answer is accepted, its replay under the next challenge and a
    proof with the last bit flipped are refused -/
example : runHistory Crypto.real srv [(cd0, good0, c1), (cd0, good0, c1)] = [true, false] := by
  rw [Crypto.real_eq_fast]; decide +kernel
example : flipBit good0 159 = good0.take 19 ++ [0xaf] := by decide

/-- the hypotheses of the collision theorems (`C05_replay`, …) are jointly satisfiable — necessarily
    with a hash that has a known collision, here the constant one: lengths as in the Rust types,
    different challenges, and the replay accepted -/
private def Cconst : Crypto := ⟨fun _ => List.replicate 20 0, fun _ _ => List.replicate 20 0, fun _ => List.replicate 16 0⟩
example : cd0.length = 16 ∧ srv.reconnectChallengeData.length = 16 ∧ c1.length = 16 ∧
    srv.sessionKey.length = 40 ∧ srv.reconnectChallengeData ≠ c1 ∧
    (srv.verifyReconnectionAttempt Cconst cd0
      (calculateReconnectProof Cconst srv.username.asRef cd0 c1 srv.sessionKey) c1).1 = true := by decide

private def c2 : Bytes := List.replicate 16 11
private def fourTimes : List (Bytes × Bytes) := [(cd0, good0), (cd0, good0), (cd0, good0), (cd0, good0)]

/-- `C05_replay_refused_when_draws_distinct` on the real SHA-1: the stream hands out `r₀ = c1`,
    `r₁ = c2`, `r₂ = 10×16`, all different from each other and from the login challenge `c0` (the
    hypothesis holds), the stream is long enough, and the pair accepted at position 0 is refused at
    positions 1 and 2; 48 bytes are consumed and the rest of the stream is left alone -/
example :
    (srv.reconnectChallengeData ::
      drawList (fourTimes.take 3).length (c1 ++ c2 ++ List.replicate 16 10 ++ [1, 2])).Pairwise (· ≠ ·) ∧
    runHistoryRng Crypto.real srv (fourTimes.take 3) (c1 ++ c2 ++ List.replicate 16 10 ++ [1, 2]) =
        some ([true, false, false], [1, 2]) := by
  refine ⟨by decide, by rw [Crypto.real_eq_fast]; decide +kernel⟩

/-- **the distinctness hypothesis is necessary**, on the real SHA-1: the stream repeats a draw,
    `r₀ = r₂ = c0` (and `r₀` also repeats the login challenge). The pair that answers `c0`, accepted at
    position 1 (where `r₀` is on offer), is accepted again at position 3 (where `r₂ = r₀` is on offer);
    at position 2, where the different draw `r₁ = c1` is on offer, it is refused -/
example : runHistoryRng Crypto.real srv fourTimes (c0 ++ c1 ++ c0 ++ c1) =
    some ([true, true, false, true], []) := by
  rw [Crypto.real_eq_fast]; decide +kernel

/-- the same through `C05_replay_accepted_when_draws_equal` (i = 0, j = 2): its hypotheses are
    jointly satisfiable and it predicts the acceptance at position 3 -/
example (verdicts : List Bool) (rest : Bytes)
    (hrun : runHistoryRng Crypto.real srv fourTimes (c0 ++ c1 ++ c0 ++ c1) = some (verdicts, rest))
    (hacc : verdicts[1]? = some true) : verdicts[3]? = some true :=
  C05_replay_accepted_when_draws_equal Crypto.real srv fourTimes _ rest verdicts hrun 0 2 cd0 good0 c0
    (by decide) (by decide) (by decide) (by decide) hacc

/-- a stream that is too short: the run stops (no verdict list) -/
example : runHistoryRng Crypto.real srv fourTimes (c0 ++ c1 ++ c0) = none := by
  rw [Crypto.real_eq_fast]; decide +kernel
end

#print axioms C05_challenge_width
#print axioms C05_draws_are_segments
#print axioms C05_draws_width
#print axioms C05_history_rng
#print axioms C05_replay_refused_when_draws_distinct
#print axioms C05_replay_accepted_when_offers_equal
#print axioms C05_replay_accepted_when_draws_equal

end WowSrp
