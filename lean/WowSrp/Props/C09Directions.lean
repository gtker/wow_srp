/-
C09 — the two Wrath directions for ONE concrete session key under the executable primitives
(`Crypto.real`): TESTS (one input), labelled as such, evaluated by the kernel (through the fast forms
of `Lemmas/Eval.lean`).

`C09_shared_state_gives_key_collision` (Props/C09.lean) reduces "the two directions share an RC4 state
at some point" to "the two key schedules KSA(HMAC(S, K)) and KSA(HMAC(R, K)) coincide". For the key
below the kernel evaluates both HMACs and both key schedules (the latter on the textbook RC4 of
`Spec/Rc4.lean`, tied to the model by `Rc4.keyed_abs`) and finds them different; by the reduction the two
directions then differ right after the 1024-byte drop and after every further equal number of bytes.

Evaluating the two post-drop states *directly* in the kernel (2 × 1024 PRGA steps on 256-entry tables)
is far too slow for a build; that direct comparison is therefore an `#eval` at the end of the file (compiled
evaluation, not a proof, and its output is compared with nothing), next to the kernel-checked derivation.
-/
import WowSrp.Props.C09
namespace WowSrp

/-- the session key of the test: 40 bytes 3, 10, 17, … (7·i + 3 mod 256) -/
def C09_testK : Bytes := (List.range 40).map fun i => UInt8.ofNat (7 * i + 3)

def C09_testKeyS : Bytes :=
  [181, 224, 80, 33, 181, 103, 25, 220, 179, 177, 124, 173, 86, 12, 78, 128, 158, 47, 45, 0]
def C09_testKeyR : Bytes :=
  [222, 121, 71, 79, 19, 101, 163, 207, 214, 122, 213, 193, 56, 244, 213, 208, 45, 9, 60, 252]

/-- TEST: HMAC-SHA1(S, K) under `Crypto.real` -/
theorem C09_test_hmacS : Crypto.real.hmac Gen.wrathS C09_testK = C09_testKeyS := by
  rw [Crypto.real_eq_fast]; decide +kernel
/-- TEST: HMAC-SHA1(R, K) under `Crypto.real` -/
theorem C09_test_hmacR : Crypto.real.hmac Gen.wrathR C09_testK = C09_testKeyR := by
  rw [Crypto.real_eq_fast]; decide +kernel

/-- TEST: the two textbook key schedules differ -/
theorem C09_test_ksa_differ :
    Spec.Rc4.init (C09_testKeyS.map UInt8.toNat) ≠ Spec.Rc4.init (C09_testKeyR.map UInt8.toNat) := by
  rw [Spec.Packed.Rc4.init_eq, Spec.Packed.Rc4.init_eq]
  decide +kernel

/-- hence no key collision for this session key: the model's `Rc4::new` on the two derived keys gives
    different states -/
theorem C09_test_no_key_collision :
    Rc4.new (Crypto.real.hmac Gen.wrathS C09_testK) ≠ Rc4.new (Crypto.real.hmac Gen.wrathR C09_testK) := by
  rw [C09_test_hmacS, C09_test_hmacR, Rc4.new_eq, Rc4.new_eq]
  intro h
  apply C09_test_ksa_differ
  rw [← Rc4.keyed_abs _ (by decide), ← Rc4.keyed_abs _ (by decide), Out.ok.inj h]

/-- **TEST (one concrete K, `Crypto.real`): the two directions are in different RC4 states right after
    the 1024-byte drop, and after every further `n` bytes** — kernel-checked: two HMACs and two key
    schedules by evaluation, the 1024 + n PRGA steps by `C09_no_key_collision_gives_disjoint_states`
    (injectivity of the PRGA step), not by evaluation -/
theorem C09_test_directions_differ :
    ∃ c2s s2c, InnerCrypto.new Crypto.real C09_testK Gen.wrathS = .ok c2s ∧
      InnerCrypto.new Crypto.real C09_testK Gen.wrathR = .ok s2c ∧ c2s ≠ s2c ∧
      ∀ n, Rc4.advance n c2s ≠ Rc4.advance n s2c := by
  -- `n` bytes after the drop is `1024 + n` bytes after keying, and that many PRGA steps are injective
  have key : ∀ n, Rc4.advance n (wrathGen Crypto.real Gen.wrathS C09_testK) ≠
      Rc4.advance n (wrathGen Crypto.real Gen.wrathR C09_testK) := fun n h =>
    C09_test_no_key_collision (by
      rw [wrathGen_def, wrathGen_def, ← Rc4.advance_add, ← Rc4.advance_add] at h
      rw [Rc4.new_eq, Rc4.new_eq, Rc4.advance_injective _ _ _ (Rc4.keyed_inv _) (Rc4.keyed_inv _) h])
  exact ⟨_, _, InnerCrypto.new_eq .., InnerCrypto.new_eq .., fun h => key 0 (congrArg (Rc4.advance 0) h), key⟩

/- TEST by compiled evaluation (not a proof; far too slow in the kernel): the two
   post-drop states computed directly by the model, and their first 8 keystream bytes.
   Expected output: `false`, then two different byte lists. -/
#eval (InnerCrypto.new Crypto.real C09_testK Gen.wrathS) == (InnerCrypto.new Crypto.real C09_testK Gen.wrathR)
#eval (do let r ← InnerCrypto.new Crypto.real C09_testK Gen.wrathS; let (_, ks) ← r.apply (List.replicate 8 0); pure ks : Out Bytes)
#eval (do let r ← InnerCrypto.new Crypto.real C09_testK Gen.wrathR; let (_, ks) ← r.apply (List.replicate 8 0); pure ks : Out Bytes)

end WowSrp

#print axioms WowSrp.C09_test_no_key_collision
#print axioms WowSrp.C09_test_directions_differ
