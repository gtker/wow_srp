/-
C06 — the world-login proof is accepted iff name, session key and both seeds match.
Model: `calculateWorldServerProof`, `ProofSeed.*` (WowSrp/Model/World.lean). The model has one
Vanilla/TBC pair of entry points parameterised by `e : Exp` (the two Rust copies differ only in the
`HeaderCrypto` they build) and a separate Wrath pair. All theorems for an arbitrary `C : Crypto`;
no property of SHA-1 is assumed (DESIGN §2.2).
-/
import WowSrp.Model.World
import WowSrp.Lemmas.Layout
import WowSrp.Lemmas.NoPanicHeader
import WowSrp.Lemmas.Out
import WowSrp.Lemmas.RngDraw
namespace WowSrp
open WowSrp.Layout

/-- the documented layout: username | four zero bytes | client seed LE | server seed LE | session key -/
def worldProofInput (U : Bytes) (clientSeed serverSeed : Nat) (K : Bytes) : Bytes :=
  U ++ [0, 0, 0, 0] ++ leN 4 clientSeed ++ leN 4 serverSeed ++ K

theorem calculateWorldServerProof_eq (C : Crypto) (U K : Bytes) (ss cs : Nat) :
    calculateWorldServerProof C U K ss cs = C.sha1 (worldProofInput U cs ss K) := rfl

/-- **client proof, Vanilla and TBC**: the proof sent is
    SHA-1(username | 0,0,0,0 | own seed LE | server seed LE | session key); the crypto object is the
    fresh `HeaderCrypto` for that session key -/
theorem C06_client_proof (C : Crypto) (e : Exp) (seed : Nat) (u : NStr) (K : Bytes) (serverSeed : Nat) :
    (ProofSeed.intoClientHeaderCrypto C e seed u K serverSeed).1 =
      C.sha1 (u.asRef ++ [0, 0, 0, 0] ++ leN 4 seed ++ leN 4 serverSeed ++ K) ∧
    (ProofSeed.intoClientHeaderCrypto C e seed u K serverSeed).2 = HeaderCrypto.new C e K :=
  ⟨rfl, rfl⟩

/-- **client proof, Wrath**: the call returns (no panic), with the same proof bytes and the fresh
    `ClientCrypto` -/
theorem C06_client_proof_wrath (C : Crypto) (seed : Nat) (u : NStr) (K : Bytes) (serverSeed : Nat) :
    ∃ c, WClientCrypto.new C K = .ok c ∧
      ProofSeed.wrathIntoClient C seed u K serverSeed =
        .ok (C.sha1 (u.asRef ++ [0, 0, 0, 0] ++ leN 4 seed ++ leN 4 serverSeed ++ K), c) := by
  obtain ⟨c, hc, _⟩ := WClientCrypto.new_ok C K
  refine ⟨c, hc, ?_⟩
  simp only [ProofSeed.wrathIntoClient, hc, Out.bind_ok, Out.pure_eq]
  rfl

/-- **server decision, Vanilla and TBC**, as one equation: success with the fresh `HeaderCrypto`
    exactly when the presented proof equals the hash for the server's own seed, the client's seed, the
    username and the session key; otherwise the error carrying the presented and the computed proof -/
theorem C06_server_eq (C : Crypto) (e : Exp) (seed : Nat) (u : NStr) (K proof : Bytes) (clientSeed : Nat) :
    ProofSeed.intoServerHeaderCrypto C e seed u K proof clientSeed =
      if proof = C.sha1 (u.asRef ++ [0, 0, 0, 0] ++ leN 4 clientSeed ++ leN 4 seed ++ K)
      then .ok (HeaderCrypto.new C e K)
      else .error ⟨proof, C.sha1 (u.asRef ++ [0, 0, 0, 0] ++ leN 4 clientSeed ++ leN 4 seed ++ K)⟩ :=
  ite_bne_comm ..

/-- **server accepts iff** the proof is that value; the object handed out is `HeaderCrypto::new(K)` -/
theorem C06_server_iff (C : Crypto) (e : Exp) (seed : Nat) (u : NStr) (K proof : Bytes) (clientSeed : Nat)
    (hc : HeaderCrypto) :
    ProofSeed.intoServerHeaderCrypto C e seed u K proof clientSeed = .ok hc ↔
      proof = C.sha1 (u.asRef ++ [0, 0, 0, 0] ++ leN 4 clientSeed ++ leN 4 seed ++ K) ∧
      hc = HeaderCrypto.new C e K := by
  rw [C06_server_eq, Except.ite_eq_ok]

/-- **otherwise the error carries both proofs** (presented one first, server's second) -/
theorem C06_server_error (C : Crypto) (e : Exp) (seed : Nat) (u : NStr) (K proof : Bytes) (clientSeed : Nat)
    (hne : proof ≠ C.sha1 (u.asRef ++ [0, 0, 0, 0] ++ leN 4 clientSeed ++ leN 4 seed ++ K)) :
    ProofSeed.intoServerHeaderCrypto C e seed u K proof clientSeed =
      .error ⟨proof, C.sha1 (u.asRef ++ [0, 0, 0, 0] ++ leN 4 clientSeed ++ leN 4 seed ++ K)⟩ := by
  rw [C06_server_eq, if_neg hne]

/-- **server decision, Wrath**, as one equation; it never panics (RC4 set-up is total) -/
theorem C06_server_eq_wrath (C : Crypto) (seed : Nat) (u : NStr) (K proof : Bytes) (clientSeed : Nat) :
    ∃ c0, WServerCrypto.new C K = .ok c0 ∧
    ProofSeed.wrathIntoServer C seed u K proof clientSeed =
      .ok (if proof = C.sha1 (u.asRef ++ [0, 0, 0, 0] ++ leN 4 clientSeed ++ leN 4 seed ++ K)
        then .ok c0
        else .error ⟨proof, C.sha1 (u.asRef ++ [0, 0, 0, 0] ++ leN 4 clientSeed ++ leN 4 seed ++ K)⟩) := by
  obtain ⟨c0, hc0, _⟩ := WServerCrypto.new_ok C K
  refine ⟨c0, hc0, ?_⟩
  rw [ProofSeed.wrathIntoServer, hc0, ite_bne_comm]
  exact (apply_ite Out.ok ..).symm

/-- **Wrath server accepts iff** the proof is that value; the object handed out is `ServerCrypto::new(K)` -/
theorem C06_server_iff_wrath (C : Crypto) (seed : Nat) (u : NStr) (K proof : Bytes) (clientSeed : Nat)
    (c : WServerCrypto) :
    ProofSeed.wrathIntoServer C seed u K proof clientSeed = .ok (.ok c) ↔
      proof = C.sha1 (u.asRef ++ [0, 0, 0, 0] ++ leN 4 clientSeed ++ leN 4 seed ++ K) ∧
      WServerCrypto.new C K = .ok c := by
  obtain ⟨c0, hc0, heq⟩ := C06_server_eq_wrath C seed u K proof clientSeed
  rw [heq, hc0, Out.ok.injEq, Except.ite_eq_ok, Out.ok.injEq, eq_comm (a := c0)]

theorem C06_server_error_wrath (C : Crypto) (seed : Nat) (u : NStr) (K proof : Bytes) (clientSeed : Nat)
    (hne : proof ≠ C.sha1 (u.asRef ++ [0, 0, 0, 0] ++ leN 4 clientSeed ++ leN 4 seed ++ K)) :
    ProofSeed.wrathIntoServer C seed u K proof clientSeed =
      .ok (.error ⟨proof, C.sha1 (u.asRef ++ [0, 0, 0, 0] ++ leN 4 clientSeed ++ leN 4 seed ++ K)⟩) := by
  obtain ⟨c0, _, heq⟩ := C06_server_eq_wrath C seed u K proof clientSeed
  rw [heq, if_neg hne]

/-- **pairing, Vanilla and TBC**: what a client with seed `cs` answers to server seed `ss` is accepted by
    the server with seed `ss` that was told client seed `cs` (same username text and session key) — all
    seeds, all names, all keys -/
theorem C06_pairing (C : Crypto) (e : Exp) (cs ss : Nat) (u : NStr) (K : Bytes) :
    ProofSeed.intoServerHeaderCrypto C e ss u K
      (ProofSeed.intoClientHeaderCrypto C e cs u K ss).1 cs = .ok (HeaderCrypto.new C e K) := by
  rw [C06_server_iff]
  exact ⟨rfl, rfl⟩

/-- **pairing, Wrath**: the client's call returns, the server accepts its proof, and the two sides hold
    `ClientCrypto::new(K)` and `ServerCrypto::new(K)` -/
theorem C06_pairing_wrath (C : Crypto) (cs ss : Nat) (u : NStr) (K : Bytes) :
    ∃ proof cc sc, ProofSeed.wrathIntoClient C cs u K ss = .ok (proof, cc) ∧
      ProofSeed.wrathIntoServer C ss u K proof cs = .ok (.ok sc) ∧
      WClientCrypto.new C K = .ok cc ∧ WServerCrypto.new C K = .ok sc := by
  obtain ⟨cc, hcc, hcl⟩ := C06_client_proof_wrath C cs u K ss
  obtain ⟨sc, hsc, _⟩ := WServerCrypto.new_ok C K
  exact ⟨_, cc, sc, hcl, (C06_server_iff_wrath ..).2 ⟨rfl, hsc⟩, hcc, hsc⟩

/-- pairing across the text of the name only: the server compares `as_ref()` texts, so two
    `NormalizedString`s with the same text pair up as well -/
theorem C06_pairing_text (C : Crypto) (e : Exp) (cs ss : Nat) (u u' : NStr) (K : Bytes)
    (hu : u.asRef = u'.asRef) :
    ProofSeed.intoServerHeaderCrypto C e ss u' K
      (ProofSeed.intoClientHeaderCrypto C e cs u K ss).1 cs = .ok (HeaderCrypto.new C e K) := by
  rw [C06_server_iff, ← hu]
  exact ⟨rfl, rfl⟩

/-- **any changed proof bit is refused**, all three expansions: a presented value different from the
    expected one — in particular each single-bit change of the expected proof — is answered with the
    error carrying both values, and no crypto object -/
theorem C06_changed_bit_refused (C : Crypto) (seed : Nat) (u : NStr) (K proof' : Bytes) (clientSeed : Nat)
    (hne : proof' ≠ calculateWorldServerProof C u.asRef K seed clientSeed) :
    (∀ e, ProofSeed.intoServerHeaderCrypto C e seed u K proof' clientSeed =
        .error ⟨proof', calculateWorldServerProof C u.asRef K seed clientSeed⟩) ∧
    ProofSeed.wrathIntoServer C seed u K proof' clientSeed =
        .ok (.error ⟨proof', calculateWorldServerProof C u.asRef K seed clientSeed⟩) :=
  ⟨fun e => C06_server_error C e seed u K proof' clientSeed hne,
   C06_server_error_wrath C seed u K proof' clientSeed hne⟩

/-- the single-bit instances: with real output lengths there are 160 of them -/
theorem C06_flipped_proof_refused (C : Crypto) (hC : C.WF) (seed : Nat) (u : NStr) (K : Bytes)
    (clientSeed : Nat) (i : Nat) (hi : i < 160) :
    let good := calculateWorldServerProof C u.asRef K seed clientSeed
    (∀ e, ProofSeed.intoServerHeaderCrypto C e seed u K (flipBit good i) clientSeed =
        .error ⟨flipBit good i, good⟩) ∧
    ProofSeed.wrathIntoServer C seed u K (flipBit good i) clientSeed = .ok (.error ⟨flipBit good i, good⟩) :=
  C06_changed_bit_refused C seed u K _ clientSeed (flipBit_sha1_ne hC _ hi)

/-- the layout is injective on (name, 32-bit seed, 32-bit seed, 40-byte key) -/
theorem worldProofInput_inj {U U' K K' : Bytes} {cs cs' ss ss' : Nat}
    (hcs : cs < 2 ^ 32) (hcs' : cs' < 2 ^ 32) (hss : ss < 2 ^ 32) (hss' : ss' < 2 ^ 32)
    (hK : K.length = K'.length)
    (h : worldProofInput U cs ss K = worldProofInput U' cs' ss' K') :
    U = U' ∧ cs = cs' ∧ ss = ss' ∧ K = K' := by
  obtain ⟨h, h5⟩ := List.append_inj' h hK
  obtain ⟨h, h4⟩ := List.append_inj' h (by rw [leN_length, leN_length])
  obtain ⟨h, h3⟩ := List.append_inj' h (by rw [leN_length, leN_length])
  exact ⟨List.append_cancel_right h, leN_inj 4 _ _ hcs hcs' h3, leN_inj 4 _ _ hss hss' h4, h5⟩

/-- **acceptance although a field differs exhibits a collision**. The presented proof is what some
    client computed from (U', own seed cs', server seed ss', K'); the server holds (u, K), its own seed
    `ss`, and was told client seed `cs`. If the proof equals the server's expected value although the
    quadruples differ in the username, either seed or any byte of the key, the two hash inputs are
    different byte strings with equal SHA-1. Seeds are `u32`s, session keys 40 bytes. -/
theorem C06_changed_field_collision_core (C : Crypto) (U U' K K' : Bytes) (cs cs' ss ss' : Nat)
    (hcs : cs < 2 ^ 32) (hcs' : cs' < 2 ^ 32) (hss : ss < 2 ^ 32) (hss' : ss' < 2 ^ 32)
    (hK : K.length = 40) (hK' : K'.length = 40)
    (hdiff : U' ≠ U ∨ cs' ≠ cs ∨ ss' ≠ ss ∨ K' ≠ K)
    (hacc : calculateWorldServerProof C U' K' ss' cs' = calculateWorldServerProof C U K ss cs) :
    ∃ m₁ m₂, m₁ = U ++ [0, 0, 0, 0] ++ leN 4 cs ++ leN 4 ss ++ K ∧
      m₂ = U' ++ [0, 0, 0, 0] ++ leN 4 cs' ++ leN 4 ss' ++ K' ∧ m₁ ≠ m₂ ∧ C.sha1 m₁ = C.sha1 m₂ := by
  refine ⟨_, _, rfl, rfl, fun heq => ?_, hacc.symm⟩
  obtain ⟨h1, h2, h3, h4⟩ := worldProofInput_inj hcs hcs' hss hss' (hK.trans hK'.symm) heq
  rcases hdiff with d | d | d | d
  · exact d h1.symm
  · exact d h2.symm
  · exact d h3.symm
  · exact d h4.symm

/-- **Vanilla / TBC entry point**: the server hands out header crypto for a proof a client made from
    other data ⇒ explicit collision pair -/
theorem C06_changed_field_collision (C : Crypto) (e : Exp) (u : NStr) (U' K K' : Bytes) (cs cs' ss ss' : Nat)
    (hc : HeaderCrypto)
    (hcs : cs < 2 ^ 32) (hcs' : cs' < 2 ^ 32) (hss : ss < 2 ^ 32) (hss' : ss' < 2 ^ 32)
    (hK : K.length = 40) (hK' : K'.length = 40)
    (hdiff : U' ≠ u.asRef ∨ cs' ≠ cs ∨ ss' ≠ ss ∨ K' ≠ K)
    (hacc : ProofSeed.intoServerHeaderCrypto C e ss u K
      (calculateWorldServerProof C U' K' ss' cs') cs = .ok hc) :
    ∃ m₁ m₂, m₁ = u.asRef ++ [0, 0, 0, 0] ++ leN 4 cs ++ leN 4 ss ++ K ∧
      m₂ = U' ++ [0, 0, 0, 0] ++ leN 4 cs' ++ leN 4 ss' ++ K' ∧ m₁ ≠ m₂ ∧ C.sha1 m₁ = C.sha1 m₂ :=
  C06_changed_field_collision_core C u.asRef U' K K' cs cs' ss ss' hcs hcs' hss hss' hK hK' hdiff
    ((C06_server_iff ..).1 hacc).1

theorem C06_changed_field_collision_wrath (C : Crypto) (u : NStr) (U' K K' : Bytes) (cs cs' ss ss' : Nat)
    (c : WServerCrypto)
    (hcs : cs < 2 ^ 32) (hcs' : cs' < 2 ^ 32) (hss : ss < 2 ^ 32) (hss' : ss' < 2 ^ 32)
    (hK : K.length = 40) (hK' : K'.length = 40)
    (hdiff : U' ≠ u.asRef ∨ cs' ≠ cs ∨ ss' ≠ ss ∨ K' ≠ K)
    (hacc : ProofSeed.wrathIntoServer C ss u K
      (calculateWorldServerProof C U' K' ss' cs') cs = .ok (.ok c)) :
    ∃ m₁ m₂, m₁ = u.asRef ++ [0, 0, 0, 0] ++ leN 4 cs ++ leN 4 ss ++ K ∧
      m₂ = U' ++ [0, 0, 0, 0] ++ leN 4 cs' ++ leN 4 ss' ++ K' ∧ m₁ ≠ m₂ ∧ C.sha1 m₁ = C.sha1 m₂ :=
  C06_changed_field_collision_core C u.asRef U' K K' cs cs' ss ss' hcs hcs' hss hss' hK hK' hdiff
    ((C06_server_iff_wrath ..).1 hacc).1

/-- **swapped seeds**: a proof computed with the two seeds in each other's position is accepted only
    if the seeds are equal, or else the two inputs below are an explicit collision pair (all three
    expansions: the hypothesis is the equality every entry point tests) -/
theorem C06_swapped_seeds (C : Crypto) (U K : Bytes) (cs ss : Nat)
    (hcs : cs < 2 ^ 32) (hss : ss < 2 ^ 32) (hK : K.length = 40)
    (hacc : calculateWorldServerProof C U K cs ss = calculateWorldServerProof C U K ss cs) :
    cs = ss ∨
    ∃ m₁ m₂, m₁ = U ++ [0, 0, 0, 0] ++ leN 4 cs ++ leN 4 ss ++ K ∧
      m₂ = U ++ [0, 0, 0, 0] ++ leN 4 ss ++ leN 4 cs ++ K ∧ m₁ ≠ m₂ ∧ C.sha1 m₁ = C.sha1 m₂ := by
  by_cases h : cs = ss
  · exact Or.inl h
  · exact Or.inr (C06_changed_field_collision_core C U U K K cs ss ss cs hcs hss hss hcs hK hK
      (Or.inr (Or.inl (Ne.symm h))) hacc)

/-- swapped seeds at the Vanilla / TBC and Wrath entry points -/
theorem C06_swapped_seeds_entry (C : Crypto) (u : NStr) (K : Bytes) (cs ss : Nat)
    (hcs : cs < 2 ^ 32) (hss : ss < 2 ^ 32) (hK : K.length = 40)
    (hacc : (∃ e hc, ProofSeed.intoServerHeaderCrypto C e ss u K
                (calculateWorldServerProof C u.asRef K cs ss) cs = .ok hc) ∨
            (∃ c, ProofSeed.wrathIntoServer C ss u K
                (calculateWorldServerProof C u.asRef K cs ss) cs = .ok (.ok c))) :
    cs = ss ∨
    ∃ m₁ m₂, m₁ = u.asRef ++ [0, 0, 0, 0] ++ leN 4 cs ++ leN 4 ss ++ K ∧
      m₂ = u.asRef ++ [0, 0, 0, 0] ++ leN 4 ss ++ leN 4 cs ++ K ∧ m₁ ≠ m₂ ∧ C.sha1 m₁ = C.sha1 m₂ := by
  apply C06_swapped_seeds C u.asRef K cs ss hcs hss hK
  rcases hacc with ⟨e, hc, h⟩ | ⟨c, h⟩
  · exact ((C06_server_iff ..).1 h).1
  · exact ((C06_server_iff_wrath ..).1 h).1

/-- **the seed reported is the seed hashed**: `seed()` returns the little-endian value of the four
    drawn bytes, it is a `u32`, and the proof hashes exactly those four bytes in the client-seed
    position (client) / server-seed position (server) -/
theorem C06_seed_accessor (C : Crypto) (e : Exp) (d : Bytes) (u : NStr) (K proof : Bytes) (other : Nat) :
    ProofSeed.seed (ProofSeed.ofDraw d) = ofLE (d.take 4) ∧
    ProofSeed.seed (ProofSeed.ofDraw d) < 2 ^ 32 ∧
    (ProofSeed.intoClientHeaderCrypto C e (ProofSeed.ofDraw d) u K other).1 =
      C.sha1 (u.asRef ++ [0, 0, 0, 0] ++ leN 4 (ProofSeed.seed (ProofSeed.ofDraw d)) ++ leN 4 other ++ K) ∧
    (ProofSeed.intoServerHeaderCrypto C e (ProofSeed.ofDraw d) u K proof other =
      if proof = C.sha1 (u.asRef ++ [0, 0, 0, 0] ++ leN 4 other ++ leN 4 (ProofSeed.seed (ProofSeed.ofDraw d)) ++ K)
      then .ok (HeaderCrypto.new C e K)
      else .error ⟨proof, C.sha1 (u.asRef ++ [0, 0, 0, 0] ++ leN 4 other ++ leN 4 (ProofSeed.seed (ProofSeed.ofDraw d)) ++ K)⟩) ∧
    (d.length = 4 → leN 4 (ProofSeed.seed (ProofSeed.ofDraw d)) = d) :=
  ⟨rfl, ProofSeed.ofDraw_lt d, rfl, C06_server_eq .., ProofSeed.leN_ofDraw⟩

/-- the Wrath `ProofSeed` uses the same accessor and the same number -/
theorem C06_seed_accessor_wrath (C : Crypto) (d : Bytes) (u : NStr) (K : Bytes) (other : Nat)
    (r : Bytes × WClientCrypto)
    (h : ProofSeed.wrathIntoClient C (ProofSeed.ofDraw d) u K other = .ok r) :
    r.1 = C.sha1 (u.asRef ++ [0, 0, 0, 0] ++ leN 4 (ProofSeed.seed (ProofSeed.ofDraw d)) ++ leN 4 other ++ K) := by
  obtain ⟨c, _, hcl⟩ := C06_client_proof_wrath C (ProofSeed.ofDraw d) u K other
  obtain rfl := Out.ok.inj (hcl.symm.trans h)
  rfl

/-- **the three modules compute one function**: for every (seed, name, key, other seed) the client
    proofs of Vanilla, TBC and Wrath are the same 20 bytes; for every (seed, name, key, presented proof,
    client seed) the three servers take the same decision and, when refusing, return the same error -/
theorem C06_three_modules (C : Crypto) (seed : Nat) (u : NStr) (K proof : Bytes) (other : Nat) :
    (ProofSeed.intoClientHeaderCrypto C .vanilla seed u K other).1 =
      (ProofSeed.intoClientHeaderCrypto C .tbc seed u K other).1 ∧
    (∃ c, ProofSeed.wrathIntoClient C seed u K other =
      .ok ((ProofSeed.intoClientHeaderCrypto C .vanilla seed u K other).1, c)) ∧
    (ProofSeed.intoServerHeaderCrypto C .vanilla seed u K proof other).map (fun _ => ()) =
      (ProofSeed.intoServerHeaderCrypto C .tbc seed u K proof other).map (fun _ => ()) ∧
    (∃ r, ProofSeed.wrathIntoServer C seed u K proof other = .ok r ∧
      r.map (fun _ => ()) =
        (ProofSeed.intoServerHeaderCrypto C .vanilla seed u K proof other).map (fun _ => ())) := by
  refine ⟨rfl, ?_, ?_, ?_⟩
  · obtain ⟨c, _, h⟩ := C06_client_proof_wrath C seed u K other
    exact ⟨c, h⟩
  · rw [C06_server_eq, C06_server_eq]
    split <;> rfl
  · obtain ⟨c0, _, h⟩ := C06_server_eq_wrath C seed u K proof other
    refine ⟨_, h, ?_⟩
    rw [C06_server_eq]
    split <;> rfl

section
private def Cconst : Crypto := ⟨fun _ => List.replicate 20 0, fun _ _ => List.replicate 20 0, fun _ => List.replicate 16 0⟩
private def uA : NStr := ⟨[0x41, 0,0,0,0,0,0,0,0,0,0,0,0,0,0,0], 1⟩
private def k40 : Bytes := (List.range 40).map UInt8.ofNat

/-- the hypotheses of the collision theorems are jointly satisfiable (necessarily with a hash that
    has a known collision — the constant one): boundary seeds 0 and 0xFFFFFFFF, swapped, accepted -/
example : (0 : Nat) < 2 ^ 32 ∧ 0xFFFFFFFF < 2 ^ 32 ∧ k40.length = 40 ∧
    ProofSeed.intoServerHeaderCrypto Cconst .vanilla 0xFFFFFFFF uA k40
      (calculateWorldServerProof Cconst uA.asRef k40 0 0xFFFFFFFF) 0 = .ok (HeaderCrypto.new Cconst .vanilla k40) :=
  ⟨by decide, by decide, by decide, (C06_server_iff ..).2 ⟨by decide, rfl⟩⟩

/-- the layout itself, little-endian seeds, for name "A", client seed 0xDEADBEEF, server seed 1 -/
example : worldProofInput uA.asRef 0xDEADBEEF 1 [9] = [0x41, 0, 0, 0, 0, 0xEF, 0xBE, 0xAD, 0xDE, 1, 0, 0, 0, 9] := by
  decide
end

end WowSrp
