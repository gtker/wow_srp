/-
Published test vectors for the executable hash primitives (`Crypto.real`), checked by kernel evaluation.
These are TESTS (finitely many inputs), labelled as such: they tie `Crypto.real` — what the driver runs and
what `C03_xor_hash_real` is about — to FIPS 180-4 (SHA-1), RFC 2202 (HMAC-SHA1) and RFC 1321 (MD5).
The sha-1 / hmac / md5 crates themselves are tied to `Crypto.real` by every correspondence run.
-/
import WowSrp.Lemmas.Eval
namespace WowSrp

def ascii (s : String) : Bytes := s.toUTF8.toList

/-- FIPS 180-4: SHA-1("abc") -/
example : Crypto.real.sha1 (ascii "abc") = unhex "a9993e364706816aba3e25717850c26c9cd0d89d" := by
  rw [ascii, utf8_ofList, unhex, String.toList_ofList, Crypto.real_eq_fast]; decide +kernel
/-- SHA-1("") -/
example : Crypto.real.sha1 [] = unhex "da39a3ee5e6b4b0d3255bfef95601890afd80709" := by
  rw [unhex, String.toList_ofList, Crypto.real_eq_fast]; decide +kernel
/-- FIPS 180-4 two-block message -/
example : Crypto.real.sha1 (ascii "abcdbcdecdefdefgefghfghighijhijkijkljklmklmnlmnomnopnopq")
    = unhex "84983e441c3bd26ebaae4aa1f95129e5e54670f1" := by
  rw [ascii, utf8_ofList, unhex, String.toList_ofList, Crypto.real_eq_fast]; decide +kernel
/-- RFC 2202 test case 2 -/
example : Crypto.real.hmac (ascii "Jefe") (ascii "what do ya want for nothing?")
    = unhex "effcdf6ae5eb2fa2d27416d5f184df9c259a7c79" := by
  rw [ascii, ascii, utf8_ofList, utf8_ofList, unhex, String.toList_ofList, Crypto.real_eq_fast]; decide +kernel
/-- RFC 2202 test case 1 -/
example : Crypto.real.hmac (List.replicate 20 0x0b) (ascii "Hi There")
    = unhex "b617318655057264e28bc0b6fb378c8ef146be00" := by
  rw [ascii, utf8_ofList, unhex, String.toList_ofList, Crypto.real_eq_fast]; decide +kernel
/-- RFC 2202 test case 6 (key longer than the block size is hashed first) -/
example : Crypto.real.hmac (List.replicate 80 0xaa) (ascii "Test Using Larger Than Block-Size Key - Hash Key First")
    = unhex "aa4ae5e15272d00e95705637ce8a3b55ed402112" := by
  rw [ascii, utf8_ofList, unhex, String.toList_ofList, Crypto.real_eq_fast]; decide +kernel
/-- RFC 1321: MD5("") / MD5("abc") / MD5 of the 80-digit message -/
example : Crypto.real.md5 [] = unhex "d41d8cd98f00b204e9800998ecf8427e" := by
  rw [unhex, String.toList_ofList]; decide +kernel
example : Crypto.real.md5 (ascii "abc") = unhex "900150983cd24fb0d6963f7d28e17f72" := by
  rw [ascii, utf8_ofList, unhex, String.toList_ofList]; decide +kernel
example : Crypto.real.md5 (ascii "12345678901234567890123456789012345678901234567890123456789012345678901234567890")
    = unhex "57edf4a22be3c955ac49da2e2107b67a" := by
  rw [ascii, utf8_ofList, unhex, String.toList_ofList]; decide +kernel

end WowSrp
