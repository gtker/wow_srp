/-
C12 — Send and receive directions are independent; split and unsplit lose nothing.
Property theorems only; the histories the statements speak of (`Op`, `Obj`, `stepOp`, `runOps`, `wClientStep`,
`wServerStep`, `opsRun`, `encChunks`, `decChunks`) and the generic projection / interleaving lemmas live in
Lemmas/Histories.lean.

What is and is not covered
* every finite sequential interleaving of {encrypt chunk, decrypt chunk, split, clone, unsplit} on a
  combined object, for all keys, all chunk sizes (empty chunks included), all three expansions;
* `unsplit` succeeds exactly for equal session keys;
* NOT modelled: OS threads. A thread schedule of two threads each owning one half is not an object of
  this model. The argument that every such schedule is observationally one of the interleavings
  proved here rests on Rust ownership (each half is moved into exactly one thread, `&mut self`
  methods) plus the two syntactic facts `C12_static_facts` (no `unsafe`, no interior mutability /
  statics / shared pointers in the header modules). This clause of C12 is therefore PARTIAL: the
  two-thread runs of the correspondence step are tests, not proofs.
-/
import WowSrp.Lemmas.Histories
import WowSrp.Lemmas.Facade
namespace WowSrp

/-- every step of a Vanilla/TBC object acts on `(encHalf, decHalf)` exactly like the step of a plain
    pair: `enc` on the first component only, `dec` on the second only, `split` / `clone` / `unsplit`
    (successful or refused) on neither -/
theorem C12_step_projection (e : Exp) (o : Obj) (op : Op) :
    (stepOp e o op).mapOk (fun r => ((r.1.encHalf, r.1.decHalf), r.2))
      = pairStep (Half.encrypt e) (Half.decrypt e) (o.encHalf, o.decHalf) op := by
  cases o with
  | comb hc =>
    cases op with
    | enc d =>
      simp only [stepOp, pairStep, Obj.encHalf, Obj.decHalf, HeaderCrypto.encryptData]
      cases hc.encrypt.encrypt e d <;> rfl
    | dec d =>
      simp only [stepOp, pairStep, Obj.encHalf, Obj.decHalf, HeaderCrypto.decryptData]
      cases hc.decrypt.decrypt e d <;> rfl
    | split | clone | unsplit => rfl
  | halves en de =>
    cases op with
    | enc d =>
      simp only [stepOp, pairStep, Obj.encHalf, Obj.decHalf]
      cases en.encrypt e d <;> rfl
    | dec d =>
      simp only [stepOp, pairStep, Obj.encHalf, Obj.decHalf]
      cases de.decrypt e d <;> rfl
    | split | clone => rfl
    | unsplit =>
      -- accepted or refused, the two halves are `en` and `de`
      cases e with
      | tbc => rfl
      | vanilla => rw [stepOp, Half.unsplit]; cases en.isPairOf de <;> rfl

/-- **interleaving, Vanilla and TBC**: for every history `ops` over
    {encrypt chunk, decrypt chunk, split, clone, unsplit}, started from any object `o`, the history
    succeeds with encrypt-side output `eo`, decrypt-side output `dout` and final halves `en'`, `de'`
    **exactly when** a separate encrypter in the state of `o`'s encrypting half, given all encrypt
    chunks in a single call, returns `(en', eo)` and a separate decrypter in the state of `o`'s
    decrypting half, given all decrypt chunks in a single call, returns `(de', dout)`.
    So neither direction can observe — in its bytes or its final state — how the other direction's
    calls, the splits, clones and re-joins were interleaved with its own calls, nor how its own
    bytes were chunked; and the history panics iff one of the two separate objects does. -/
theorem C12_interleaving (e : Exp) (o : Obj) (ops : List Op) (eo dout : Bytes) (en' de' : Half) :
    (∃ o', runOps e o ops = .ok (o', eo, dout) ∧ o'.encHalf = en' ∧ o'.decHalf = de') ↔
      (o.encHalf.encrypt e (encChunks ops) = .ok (en', eo) ∧
       o.decHalf.decrypt e (decChunks ops) = .ok (de', dout)) :=
  opsRun_interleaving (stepOp e) (encStep e.encMod) (decStep e.decMod) Obj.encHalf Obj.decHalf
    (C12_step_projection e) o ops eo dout en' de'

/-- the form quoted in the property: a fresh combined object for session key `K` against two fresh
    single-direction objects for the same key -/
theorem C12_interleaving_fresh (C : Crypto) (e : Exp) (K : Bytes) (ops : List Op) (eo dout : Bytes)
    (en' de' : Half) :
    (∃ o', runOps e (.comb (HeaderCrypto.new C e K)) ops = .ok (o', eo, dout) ∧
        o'.encHalf = en' ∧ o'.decHalf = de') ↔
      ((Half.newEnc C e K).encrypt e (encChunks ops) = .ok (en', eo) ∧
       (Half.newDec C e K).decrypt e (decChunks ops) = .ok (de', dout)) :=
  C12_interleaving e (.comb (HeaderCrypto.new C e K)) ops eo dout en' de'

/-- **interleaving, Wrath client pair**: per direction the bytes and the final RC4 state are those of
    one `apply_keystream` call of a separate RC4 on all chunks of that direction -/
theorem C12_interleaving_wrath_client (c : WClientCrypto) (ops : List Op) (eo dout : Bytes) (re rd : Rc4) :
    (∃ c', opsRun wClientStep c ops = .ok (c', eo, dout) ∧ c'.encrypt = re ∧ c'.decrypt.rc4 = rd) ↔
      (c.encrypt.apply (encChunks ops) = .ok (re, eo) ∧
       c.decrypt.rc4.apply (decChunks ops) = .ok (rd, dout)) :=
  opsRun_interleaving wClientStep Rc4.step Rc4.step (·.encrypt) (·.decrypt.rc4) wClientStep_projection
    c ops eo dout re rd

/-- **interleaving, Wrath server pair** -/
theorem C12_interleaving_wrath_server (c : WServerCrypto) (ops : List Op) (eo dout : Bytes) (re rd : Rc4) :
    (∃ c', opsRun wServerStep c ops = .ok (c', eo, dout) ∧ c'.encrypt.rc4 = re ∧ c'.decrypt = rd) ↔
      (c.encrypt.rc4.apply (encChunks ops) = .ok (re, eo) ∧
       c.decrypt.apply (decChunks ops) = .ok (rd, dout)) :=
  opsRun_interleaving wServerStep Rc4.step Rc4.step (·.encrypt.rc4) (·.decrypt) wServerStep_projection
    c ops eo dout re rd

/-- non-vacuity: a Vanilla history that encrypts, splits, decrypts, clones, encrypts an empty chunk,
    re-joins and encrypts again; the encrypt side sees `01 02 03 04 05` exactly as in C07's example -/
example :
    let K := (List.range 40).map UInt8.ofNat
    runOps .vanilla (.comb (HeaderCrypto.new Crypto.real .vanilla K))
        [.enc [1, 2], .split, .dec [9, 8], .clone, .enc [], .unsplit, .enc [3, 4, 5]]
      = .ok (.comb ⟨⟨K, 2, 8⟩, ⟨K, 5, 0x0d⟩⟩, [0x01, 0x04, 0x05, 0x0c, 0x0d], [0x09, 0xfe]) := by decide

/-- **encrypting never changes the decrypting half and vice versa** — all six facade methods of the
    Vanilla/TBC combined object -/
theorem C12_no_shared_state (e : Exp) (hc hc' : HeaderCrypto) :
    (∀ d out, hc.encryptData e d = .ok (hc', out) → hc'.decrypt = hc.decrypt) ∧
    (∀ s o out, hc.encryptServerHeader e s o = .ok (hc', out) → hc'.decrypt = hc.decrypt) ∧
    (∀ s o out, hc.encryptClientHeader e s o = .ok (hc', out) → hc'.decrypt = hc.decrypt) ∧
    (∀ d out, hc.decryptData e d = .ok (hc', out) → hc'.encrypt = hc.encrypt) ∧
    (∀ d hdr, hc.decryptServerHeader e d = .ok (hc', hdr) → hc'.encrypt = hc.encrypt) ∧
    (∀ d hdr, hc.decryptClientHeader e d = .ok (hc', hdr) → hc'.encrypt = hc.encrypt) :=
  -- each method is `(its half's call).mapOk (put the new half back)` (Lemmas/Facade.lean)
  ⟨fun d _ h => Out.mapOk_ok_elim (·.1.decrypt = hc.decrypt) (fun _ => rfl) (hc.encryptData_eq e d ▸ h),
   fun s o _ h => Out.mapOk_ok_elim (·.1.decrypt = hc.decrypt) (fun _ => rfl) (hc.encryptServerHeader_eq e s o ▸ h),
   fun s o _ h => Out.mapOk_ok_elim (·.1.decrypt = hc.decrypt) (fun _ => rfl) (hc.encryptClientHeader_eq e s o ▸ h),
   fun d _ h => Out.mapOk_ok_elim (·.1.encrypt = hc.encrypt) (fun _ => rfl) (hc.decryptData_eq e d ▸ h),
   fun d _ h => Out.mapOk_ok_elim (·.1.encrypt = hc.encrypt) (fun _ => rfl) (hc.decryptServerHeader_eq e d ▸ h),
   fun d _ h => Out.mapOk_ok_elim (·.1.encrypt = hc.encrypt) (fun _ => rfl) (hc.decryptClientHeader_eq e d ▸ h)⟩

/-- **the same for the four Read / Write wrappers of the combined object** (`HeaderCrypto::
    {write_encrypted_server_header, write_encrypted_client_header, read_and_decrypt_server_header,
    read_and_decrypt_client_header}`), for every writer / reader script and whatever the `io::Result`:
    writing never changes the decrypting half, reading never changes the encrypting half -/
theorem C12_no_shared_state_io (e : Exp) (hc : HeaderCrypto) :
    (∀ s o w R, hc.writeServerHeader e s o w = .ok R → R.state.decrypt = hc.decrypt) ∧
    (∀ s o w R, hc.writeClientHeader e s o w = .ok R → R.state.decrypt = hc.decrypt) ∧
    (∀ script R, hc.readServerHeader e script = .ok R → R.state.encrypt = hc.encrypt) ∧
    (∀ script R, hc.readClientHeader e script = .ok R → R.state.encrypt = hc.encrypt) :=
  ⟨fun s o w _ h => Out.mapOk_ok_elim (·.state.decrypt = hc.decrypt) (fun _ => rfl) (hc.writeServerHeader_eq e s o w ▸ h),
   fun s o w _ h => Out.mapOk_ok_elim (·.state.decrypt = hc.decrypt) (fun _ => rfl) (hc.writeClientHeader_eq e s o w ▸ h),
   fun sc _ h => Out.mapOk_ok_elim (·.state.encrypt = hc.encrypt) (fun _ => rfl) (hc.readServerHeader_eq e sc ▸ h),
   fun sc _ h => Out.mapOk_ok_elim (·.state.encrypt = hc.encrypt) (fun _ => rfl) (hc.readClientHeader_eq e sc ▸ h)⟩

/-- the same for the two Wrath pairs, on the operations of the histories above: a call on one half
    returns a pair whose other half is the old one (the typed header helpers and the Read / Write
    wrappers: `C12_no_shared_state_wrath_facade`, Props/C12Wrath.lean) -/
theorem C12_no_shared_state_wrath :
    (∀ (c c' : WClientCrypto) d eo dout, wClientStep c (.enc d) = .ok (c', eo, dout) → c'.decrypt = c.decrypt) ∧
    (∀ (c c' : WClientCrypto) d eo dout, wClientStep c (.dec d) = .ok (c', eo, dout) → c'.encrypt = c.encrypt) ∧
    (∀ (c c' : WServerCrypto) d eo dout, wServerStep c (.enc d) = .ok (c', eo, dout) → c'.decrypt = c.decrypt) ∧
    (∀ (c c' : WServerCrypto) d eo dout, wServerStep c (.dec d) = .ok (c', eo, dout) → c'.encrypt = c.encrypt) := by
  refine ⟨fun c c' d eo dout h => ?_, fun c c' d eo dout h => ?_, fun c c' d eo dout h => ?_,
    fun c c' d eo dout h => ?_⟩ <;>
  · simp only [wClientStep, wServerStep] at h
    split at h <;> cases h
    rfl

/-- the combined objects have exactly two fields, one per direction (nothing else could be shared) -/
theorem C12_pair_is_two_fields (hc : HeaderCrypto) (c : WClientCrypto) (s : WServerCrypto) :
    hc = ⟨hc.decrypt, hc.encrypt⟩ ∧ c = ⟨c.decrypt, c.encrypt⟩ ∧ s = ⟨s.decrypt, s.encrypt⟩ :=
  ⟨rfl, rfl, rfl⟩

/-- **unsplit succeeds exactly when both halves carry the same session key** — equality of the whole
    key, every byte -/
theorem C12_unsplit_iff (enc dec : Half) : (Half.unsplit enc dec).isSome ↔ enc.key = dec.key := by
  unfold Half.unsplit Half.isPairOf
  by_cases h : enc.key = dec.key <;> simp [h]

/-- … and otherwise reports the error -/
theorem C12_unsplit_refused_iff (enc dec : Half) : Half.unsplit enc dec = none ↔ enc.key ≠ dec.key := by
  rw [← Option.not_isSome_iff_eq_none, C12_unsplit_iff]

/-- **nothing is lost**: a successful unsplit is exactly the object made of the two halves as they
    are (position and previous byte of each half included), and splitting it again returns them -/
theorem C12_unsplit_result (enc dec : Half) (hk : enc.key = dec.key) :
    Half.unsplit enc dec = some ⟨dec, enc⟩ ∧
    (∀ hc, Half.unsplit enc dec = some hc → hc.split = (enc, dec)) := by
  have h1 : Half.unsplit enc dec = some ⟨dec, enc⟩ := by
    unfold Half.unsplit Half.isPairOf; simp [hk]
  exact ⟨h1, fun hc h => by cases h1.symm.trans h; rfl⟩

/-- **`unsplit` on an object's own halves always succeeds (Vanilla)**: along every history from a fresh
    combined object, whatever was encrypted or decrypted in between and however often it was split,
    cloned and re-joined, the two halves still carry the session key `K`, so the next `unsplit`
    returns the combined object made of exactly those halves. (Apply to every prefix of a history:
    no `unsplit` inside a history is ever refused.) -/
theorem C12_unsplit_own_halves (C : Crypto) (K : Bytes) (ops : List Op) (o' : Obj) (eo dout : Bytes)
    (h : runOps .vanilla (.comb (HeaderCrypto.new C .vanilla K)) ops = .ok (o', eo, dout)) :
    o'.encHalf.key = K ∧ o'.decHalf.key = K ∧
    Half.unsplit o'.encHalf o'.decHalf = some ⟨o'.decHalf, o'.encHalf⟩ := by
  obtain ⟨h1, h2⟩ := (C12_interleaving_fresh C .vanilla K ops eo dout o'.encHalf o'.decHalf).mp ⟨o', h, rfl, rfl⟩
  have k1 : o'.encHalf.key = K := Half.encrypt_key _ _ _ _ _ h1
  have k2 : o'.decHalf.key = K := Half.decrypt_key _ _ _ _ _ h2
  exact ⟨k1, k2, (C12_unsplit_result _ _ (k1.trans k2.symm)).1⟩

/-- split followed by unsplit gives back the very same object (whatever state its halves are in),
    provided its halves share a key — which `C12_unsplit_own_halves` shows is always the case -/
theorem C12_split_unsplit (hc : HeaderCrypto) (hk : hc.encrypt.key = hc.decrypt.key) :
    Half.unsplit hc.split.1 hc.split.2 = some hc :=
  (C12_unsplit_result hc.encrypt hc.decrypt hk).1

/-- **keys that differ somewhere are refused** — wherever the difference is -/
theorem C12_unsplit_differ (enc dec : Half) (i : Nat) (hdiff : dec.key[i]? ≠ enc.key[i]?) :
    Half.unsplit enc dec = none ∧ enc.isPairOf dec = false := by
  have hne : enc.key ≠ dec.key := fun h => hdiff (by rw [h])
  refine ⟨(C12_unsplit_refused_iff enc dec).2 hne, ?_⟩
  unfold Half.isPairOf
  simp [hne]

/-- **keys differing in exactly one byte are refused, at every position** `i` — in particular the
    last one (`i = 39` for the 40-byte Vanilla key) -/
theorem C12_unsplit_one_byte (enc dec : Half) (i : Nat) (hi : i < enc.key.length) (b : UInt8)
    (hb : b ≠ enc.key[i]) (hd : dec.key = enc.key.set i b) :
    Half.unsplit enc dec = none ∧ enc.isPairOf dec = false := by
  apply C12_unsplit_differ enc dec i
  rw [hd, List.getElem?_set_self hi, List.getElem?_eq_getElem hi]
  simpa using hb

/-- the instance the mutation "compare 39 bytes" would get wrong: only byte 39 differs -/
example :
    let K := (List.range 40).map UInt8.ofNat
    Half.unsplit ⟨K, 3, 7⟩ ⟨K.set 39 0xff, 5, 9⟩ = none ∧
    Half.unsplit ⟨K, 3, 7⟩ ⟨K, 5, 9⟩ = some ⟨⟨K, 5, 9⟩, ⟨K, 3, 7⟩⟩ := by decide

/-- **`is_pair_of` is symmetric**: the Rust defines `DecrypterHalf::is_pair_of(&self, enc)` as
    `enc.is_pair_of(self)`; as a relation on halves the test does not depend on which side is asked,
    and it is the key-equality test -/
theorem C12_isPairOf_symm (a b : Half) :
    a.isPairOf b = b.isPairOf a ∧ (a.isPairOf b = true ↔ a.key = b.key) := by
  unfold Half.isPairOf
  exact ⟨BEq.comm, by simp⟩

/-- `#![forbid(unsafe_code)]` is present in lib.rs, and the header modules and rc4.rs contain no
    `Cell` / `RefCell` / `Mutex` / `Atomic*` / `static` / `thread_local!` / `Rc` / `Arc`
    (both regenerated from the source on every run).

    OS thread schedules are not modelled. That any schedule of two threads, each owning one half,
    equals some interleaving covered by `C12_interleaving*` rests on Rust ownership plus these two
    facts: a half is plain owned data, its methods take `&mut self`, and nothing reachable from one
    half is reachable from the other. PARTIAL on schedules. -/
theorem C12_static_facts : Gen.forbidUnsafe = true ∧ Gen.headerModulesHaveNoSharedState = true := by
  decide

end WowSrp

#print axioms WowSrp.C12_no_shared_state_io
