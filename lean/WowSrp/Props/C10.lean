/-
C10 — Wrath server headers of both lengths round-trip and keep the stream in step.
Property theorems only; helper lemmas and the scenario definitions used in the statements
(`dataScript`, `WClientDec.twoStep`, `serverEmitAll`, `clientReadAll`, `clientTwoStepAll`) live in
Lemmas/WrathCodec.lean, RC4 facts in Lemmas/Rc4.lean.

Sizes are `u32`, opcodes `u16` in the Rust; here they are `Nat` with the bounds as hypotheses.
The wire format carries 23 bits of size, so the round trip is claimed for `size ≤ 0x7FFFFF` only
(for larger `u32` sizes the top bits are silently dropped by the server — not part of this property).
-/
import WowSrp.Lemmas.WrathCodec
import WowSrp.Lemmas.Eval
namespace WowSrp

/-- tie to the source: threshold and the three masks as the Rust spells them (regenerated every run) -/
theorem C10_constants :
    Gen.wrathLargeThreshold = 0x7FFF ∧ Gen.wrathSetMask = 0x80 ∧ Gen.wrathClearMask = 0x7F ∧
    Gen.wrathTestMask = 0x80 ∧ Gen.wrathServerHeaderMinLength = 4 ∧ Gen.wrathServerHeaderMaxLength = 5 := by
  decide

/-- **length**: 4 plaintext bytes when `size ≤ 0x7FFF`, otherwise 5 — for every size and opcode -/
theorem C10_len (size op : Nat) :
    (wrathServerHeaderBytes size op).length = if size ≤ 0x7FFF then 4 else 5 :=
  wrathServerHeaderBytes_length size op

/-- **marker**: for every size the wire format can carry, the first plaintext byte has bit 0x80 set
    exactly when the header is a long one (`size > 0x7FFF`); `largeHeader` is the client's test -/
theorem C10_marker (size op : Nat) (hs : size ≤ 0x7FFFFF) :
    ∃ b0 rest, wrathServerHeaderBytes size op = b0 :: rest ∧
      (b0 &&& 0x80 ≠ 0 ↔ size > 0x7FFF) ∧ (largeHeader b0 = true ↔ size > 0x7FFF) := by
  -- the two tests are one: `largeHeader` is the test of bit 0x80
  have hlh : ∀ b : UInt8, b &&& 0x80 ≠ 0 ↔ largeHeader b = true := fun b => by
    simp [largeHeader, show UInt8.ofNat Gen.wrathTestMask = 0x80 by decide]
  suffices ∃ b0 rest, wrathServerHeaderBytes size op = b0 :: rest ∧ (largeHeader b0 = true ↔ size > 0x7FFF) by
    obtain ⟨b0, rest, h1, h2⟩ := this
    exact ⟨b0, rest, h1, (hlh b0).trans h2, h2⟩
  rw [wrathServerHeaderBytes_eq]
  by_cases hbig : size > 0x7FFF
  · -- long: the first byte is the top byte of the size, below 0x80, with the mask set
    have hl := (largeHeader_marked ⟨size / 65536, by omega⟩).1
    rw [if_pos hbig, Nat.mod_eq_of_lt (show size / 65536 < 256 by omega)]
    exact ⟨_, _, rfl, iff_of_true hl hbig⟩
  · -- short: the first byte is the high byte of a size below 0x8000
    have hl := largeHeader_small ⟨size / 256 % 256, by omega⟩
    rw [if_neg hbig]
    exact ⟨_, _, rfl, iff_of_false (by simp only [hl]; decide) hbig⟩

/-- **decode ∘ encode = id** on plaintext: for all 2^23 sizes and all 2^16 opcodes, choosing the
    parser by the marker of the first byte (as the client does) gives back exactly (size, opcode).
    Covers the boundary 0x7FFF/0x8000, sizes ≥ 0x400000 (other high bits of the top byte), opcodes
    with a high byte. -/
theorem C10_decode_encode (size op : Nat) (hs : size ≤ 0x7FFFFF) (ho : op < 65536) :
    ∃ b0 rest, wrathServerHeaderBytes size op = b0 :: rest ∧
      (if largeHeader b0 then parseLarge (b0 :: rest) else parseSmall (b0 :: rest)) = .ok (size, op) := by
  have h := wrathDecodePlain_encode size op hs ho
  cases hp : wrathServerHeaderBytes size op with
  | nil => rw [hp] at h; cases h
  | cons b0 rest => rw [hp] at h; exact ⟨b0, rest, rfl, h⟩

/-- **server emits**: from any state whose RC4 table is intact, for every size and opcode,
    `encrypt_server_header` does not panic, hands out 4 or 5 bytes as above, these are the RC4
    encryption of the plaintext, the RC4 state advances accordingly (and stays intact), and the
    internal 5-byte buffer is overwritten from the front -/
theorem C10_server_emits (h : WServerEnc) (hinv : h.rc4.Inv) (size op : Nat) :
    ∃ h' enc, h.encryptServerHeader size op = .ok (h', enc) ∧
      enc.length = (if size ≤ 0x7FFF then 4 else 5) ∧
      h.rc4.apply (wrathServerHeaderBytes size op) = .ok (h'.rc4, enc) ∧ h'.rc4.Inv ∧
      h'.serverHeader = enc ++ h.serverHeader.drop enc.length := by
  obtain ⟨r', enc, happ, hinv', hlen, hemit⟩ := WServerEnc.encryptServerHeader_spec h hinv size op
  exact ⟨_, enc, hemit, hlen, happ, hinv', rfl⟩

/-- **round trip, two-step path**: `attempt_decrypt_server_header` on the first four emitted bytes
    answers `Header(size, op)` when the header is short (and there is no fifth byte), and
    `AdditionalByteRequired` when it is long, in which case `decrypt_large_server_header` on the fifth
    byte returns `(size, op)`. Either way the final client state is *the same value* `c'` that the
    read-based call ends in, and its RC4 equals the server's. -/
theorem C10_roundtrip_attempt (s : WServerEnc) (c : WClientDec) (heq : c.rc4 = s.rc4) (hinv : s.rc4.Inv)
    (size op : Nat) (hs : size ≤ 0x7FFFFF) (ho : op < 65536)
    (s' : WServerEnc) (enc : Bytes) (hemit : s.encryptServerHeader size op = .ok (s', enc)) :
    ∃ c', c.readServerHeader [.data enc] = .ok ⟨c', .ok (size, op), []⟩ ∧ c'.rc4 = s'.rc4 ∧
      c.twoStep enc = .ok (c', (size, op), []) ∧
      (if size ≤ 0x7FFF then c.attempt (enc.take 4) = .ok (c', .header size op) ∧ enc.drop 4 = []
       else ∃ c1 b, c.attempt (enc.take 4) = .ok (c1, .additionalByteRequired) ∧ enc.drop 4 = [b] ∧
         c1.decryptLarge b = .ok (c', (size, op))) := by
  obtain ⟨_, hlen, c', heq', hread, htwo, hatt⟩ := wrath_header_single s c heq hinv size op hs ho s' enc hemit
  have := hread [] []
  rw [List.append_nil, dataScript_pos enc [] (by rw [hlen]; split <;> decide)] at this
  exact ⟨c', this, heq', by simpa using htwo [], hatt⟩

/-- **round trip, read-based call**: server encrypter and client decrypter in equal RC4 states (C09:
    that is how `new` leaves them, and how every earlier header left them). For every size up to
    0x7FFFFF and every opcode, a reader holding exactly the emitted bytes makes
    `read_and_decrypt_server_header` return `Ok((size, op))`, nothing is left unread, and the two RC4
    states are equal again. -/
theorem C10_roundtrip_read (s : WServerEnc) (c : WClientDec) (heq : c.rc4 = s.rc4) (hinv : s.rc4.Inv)
    (size op : Nat) (hs : size ≤ 0x7FFFFF) (ho : op < 65536)
    (s' : WServerEnc) (enc : Bytes) (hemit : s.encryptServerHeader size op = .ok (s', enc)) :
    ∃ c', c.readServerHeader [.data enc] = .ok ⟨c', .ok (size, op), []⟩ ∧ c'.rc4 = s'.rc4 ∧ s'.rc4.Inv :=
  let ⟨c', hread, heq', _⟩ := C10_roundtrip_attempt s c heq hinv size op hs ho s' enc hemit
  ⟨c', hread, heq', (wrath_header_single s c heq hinv size op hs ho s' enc hemit).1⟩

/-- the same with more traffic behind the header: exactly the emitted bytes are consumed, the rest of
    the stream (`more`) and of the reader's script (`tail`) is untouched -/
theorem C10_roundtrip_read_stream (s : WServerEnc) (c : WClientDec) (heq : c.rc4 = s.rc4) (hinv : s.rc4.Inv)
    (size op : Nat) (hs : size ≤ 0x7FFFFF) (ho : op < 65536)
    (s' : WServerEnc) (enc : Bytes) (hemit : s.encryptServerHeader size op = .ok (s', enc))
    (more : Bytes) (tail : List REv) :
    ∃ c', c.readServerHeader (dataScript (enc ++ more) tail) = .ok ⟨c', .ok (size, op), dataScript more tail⟩ ∧
      c'.rc4 = s'.rc4 := by
  obtain ⟨_, _, c', heq', hread, _, _⟩ := wrath_header_single s c heq hinv size op hs ho s' enc hemit
  exact ⟨c', hread more tail, heq'⟩

/-- **any sequence, both paths**: for every finite list of headers (sizes ≤ 0x7FFFFF, opcodes
    < 65536; short and long mixed in any order), starting from equal RC4 states: the server emits them
    all without panic; the concatenated output has exactly 4 resp. 5 bytes per header; decoding it
    header by header through `read_and_decrypt_server_header` (reader holding the whole stream) and
    through the two-step path both yield exactly the list, consume exactly the emitted bytes, end in
    the same client state, and leave client RC4 = server RC4 — so the connection can go on. -/
theorem C10_sequence (hdrs : List (Nat × Nat)) (hb : ∀ h ∈ hdrs, h.1 ≤ 0x7FFFFF ∧ h.2 < 65536)
    (s : WServerEnc) (c : WClientDec) (heq : c.rc4 = s.rc4) (hinv : s.rc4.Inv) :
    ∃ s' wire, serverEmitAll s hdrs = .ok (s', wire) ∧ s'.rc4.Inv ∧
      wire.length = (hdrs.map (fun h => if h.1 ≤ 0x7FFF then 4 else 5)).sum ∧
      ∃ c', c'.rc4 = s'.rc4 ∧
        clientReadAll hdrs.length c (dataScript wire []) = .ok (c', hdrs, []) ∧
        clientTwoStepAll hdrs.length c wire = .ok (c', hdrs, []) := by
  obtain ⟨s', wire, hall, hinv', hlen, c', heq', hread, htwo⟩ := wrath_header_sequence hdrs hb s c heq hinv
  refine ⟨s', wire, hall, hinv', hlen, c', heq', ?_, ?_⟩
  · simpa [dataScript] using hread [] []
  · simpa using htwo []

/-- the same on a fresh connection: both ends built from the same session key by their own
    constructors (which never panic), for any `Crypto` -/
theorem C10_sequence_fresh (C : Crypto) (K : Bytes) (hdrs : List (Nat × Nat))
    (hb : ∀ h ∈ hdrs, h.1 ≤ 0x7FFFFF ∧ h.2 < 65536) :
    ∃ s c s' wire c', WServerEnc.new C K = .ok s ∧ WClientDec.new C K = .ok c ∧
      serverEmitAll s hdrs = .ok (s', wire) ∧ c'.rc4 = s'.rc4 ∧
      clientReadAll hdrs.length c (dataScript wire []) = .ok (c', hdrs, []) ∧
      clientTwoStepAll hdrs.length c wire = .ok (c', hdrs, []) := by
  obtain ⟨s', wire, hall, _, _, c', heq', hread, htwo⟩ :=
    C10_sequence hdrs hb ⟨wrathGen C Gen.wrathR K, _⟩ ⟨wrathGen C Gen.wrathR K, _⟩ rfl (wrathGen_inv ..)
  exact ⟨_, _, s', wire, c', WServerEnc.new_eq C K, WClientDec.new_eq C K, hall, heq', hread, htwo⟩

/-! non-vacuity / tests (kernel-evaluated on the executable model). The hypotheses of the theorems
    above (equal RC4 states, intact table, bounds) are met by the constructors for every key — that
    is `C10_sequence_fresh`. Below: the plaintext at the boundary sizes 0x7FFF (short) / 0x8000 (long)
    and at the largest size with opcode 0xFFFF, and a mixed sequence through the cipher from the
    identity-table RC4 state (what `Rc4::new(&[])` gives; cheap to evaluate). -/
example : wrathServerHeaderBytes 0x7FFF 0x1EE = [0x7F, 0xFF, 0xEE, 0x01] ∧
    wrathServerHeaderBytes 0x8000 0x1EE = [0x80, 0x80, 0x00, 0xEE, 0x01] ∧
    wrathServerHeaderBytes 0x7FFFFF 0xFFFF = [0xFF, 0xFF, 0xFF, 0xFF, 0xFF] := by decide
example : (⟨rc4Init, 0, 0⟩ : Rc4).Inv := rc4Init_size
example :
    (let r0 : Rc4 := ⟨rc4Init, 0, 0⟩
     let hdrs := [(0x7FFF, 0x1EE), (0x8000, 0x1EE), (0, 0), (0x7FFFFF, 0xFFFF), (0x400000, 0x100)]
     match serverEmitAll ⟨r0, [0, 0, 0, 0, 0]⟩ hdrs with
     | .ok (s', wire) =>
       wire.length == 23 &&
       (match clientTwoStepAll 5 ⟨r0, [0, 0, 0, 0]⟩ wire with
        | .ok (c', hs, rest) => hs == hdrs && rest == [] && c'.rc4.state.toList == s'.rc4.state.toList &&
            c'.rc4.i == 23 && s'.rc4.i == 23 && c'.rc4.j == s'.rc4.j
        | .panic _ => false)
     | .panic _ => false) = true := by
  rw [rc4Init, Array.map_range]
  decide +kernel

end WowSrp
