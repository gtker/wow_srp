/-
C08 — TBC header cipher: HMAC-derived 20-byte key, same recurrence as Vanilla (position modulo 20),
exact inverse. Property theorems only; helper lemmas live in Lemmas/Header.lean.
Everything is stated for an arbitrary `C : Crypto`; `C.WF` is asked where the 20-byte HMAC output length
is used (fresh halves, the recurrence), and nothing about the values of the hash ever is.
-/
import WowSrp.Lemmas.Header
import WowSrp.Lemmas.Eval
namespace WowSrp

/-- tie to the source: both TBC halves advance their index modulo 20 = the length of an HMAC-SHA1
    output (`PROOF_LENGTH`); re-checked against the regenerated constants on every run -/
theorem C08_constants :
    Gen.tbcEncMod = 20 ∧ Gen.tbcDecMod = 20 ∧ Gen.proofLength = 20 := by decide

/-- the two separately coded seeds (one literal in `encrypt.rs`, one in `decrypt.rs`) are the same
    16 bytes; `decide` on the two *generated* constants — a one-sided edit of the Rust breaks this -/
theorem C08_seed_same : Gen.tbcSeedEnc = Gen.tbcSeedDec := by decide

/-- the seed is the documented TBC constant -/
theorem C08_seed_value :
    Gen.tbcSeedEnc = [0x38, 0xA7, 0x83, 0x15, 0xF8, 0x92, 0x25, 0x30, 0x71, 0x98, 0x67, 0xB1, 0x8C, 0x04, 0xE2, 0xAA] ∧
    Gen.tbcSeedEnc.length = 16 := by decide

/-- **key derivation**: both halves are keyed with HMAC-SHA1(seed, session key) — HMAC *key* = seed,
    HMAC *message* = session key — start at position 0 with previous byte 0; and the seed is the
    documented 16 bytes. For every session key (of any length) and every `Crypto`. -/
theorem C08_key_derivation (C : Crypto) (K : Bytes) :
    (Half.newEnc C .tbc K).key = C.hmac Gen.tbcSeedEnc K ∧
    (Half.newDec C .tbc K).key = C.hmac Gen.tbcSeedEnc K ∧
    (Half.newEnc C .tbc K).index = 0 ∧ (Half.newEnc C .tbc K).prev = 0 ∧
    (Half.newDec C .tbc K).index = 0 ∧ (Half.newDec C .tbc K).prev = 0 ∧
    Gen.tbcSeedEnc = [0x38, 0xA7, 0x83, 0x15, 0xF8, 0x92, 0x25, 0x30, 0x71, 0x98, 0x67, 0xB1, 0x8C, 0x04, 0xE2, 0xAA] :=
  ⟨rfl, by rw [Half.newDec_eq_newEnc]; rfl, rfl, rfl, rfl, rfl, C08_seed_value.1⟩

/-- the two separately coded constructors produce equal structs (what derived `==` on the Rust halves
    would compare), for every session key -/
theorem C08_keys_equal (C : Crypto) (K : Bytes) : Half.newEnc C .tbc K = Half.newDec C .tbc K :=
  (Half.newDec_eq_newEnc C .tbc K).symm

/-- a fresh TBC half satisfies the bounds invariant with modulus 20
    (`key[index]` in range, `index + 1` fits a `u8`) — needs only that HMAC outputs are 20 bytes -/
theorem C08_fresh_inv (C : Crypto) (hC : C.WF) (K : Bytes) :
    (Half.newEnc C .tbc K).Inv 20 ∧ (Half.newDec C .tbc K).Inv 20 :=
  ⟨Half.newEnc_inv C .tbc K hC, Half.newDec_inv C .tbc K hC⟩

/-- **bounds**: from every state satisfying the invariant (position 0..19, any previous byte, any
    key of at least 20 bytes), for every input byte, the step neither indexes out of bounds nor
    overflows, and re-establishes the invariant — so no stream of any length can panic -/
theorem C08_step_bounds (h : Half) (x : UInt8) (hi : h.Inv 20) :
    ∃ h' y, encStep Gen.tbcEncMod h x = .ok (h', y) ∧ h'.Inv 20 ∧
    ∃ h'' z, decStep Gen.tbcDecMod h x = .ok (h'', z) ∧ h''.Inv 20 :=
  encStep_decStep_ok 20 h x hi

/-- **recurrence**: the TBC encrypter turns x_0, x_1, … into
    c_n = (x_n xor k[n mod 20]) + c_(n-1), c_(-1) = 0 with k = HMAC(seed, K) — the Vanilla Spec over
    the derived key — for streams of every length and every session key; it ends at position
    `length mod 20` remembering the last ciphertext byte -/
theorem C08_recurrence (C : Crypto) (hC : C.WF) (K xs : Bytes) :
    ∃ h', (Half.newEnc C .tbc K).encrypt .tbc xs = .ok (h', Spec.recEnc (C.hmac Gen.tbcSeedEnc K) 0 0 xs) ∧
      h'.key = C.hmac Gen.tbcSeedEnc K ∧ h'.index = xs.length % 20 ∧
      h'.prev = (Spec.recEnc (C.hmac Gen.tbcSeedEnc K) 0 0 xs).getLastD 0 :=
  Half.recurrence C .tbc K xs hC

/-- the same ciphertext written with `Spec.vanillaStream`: TBC = Vanilla over the derived key -/
theorem C08_recurrence_vanilla (C : Crypto) (hC : C.WF) (K xs : Bytes) :
    ∃ h', (Half.newEnc C .tbc K).encrypt .tbc xs = .ok (h', Spec.vanillaStream (C.hmac Gen.tbcSeedEnc K) xs) :=
  let ⟨h', h1, _⟩ := Half.recurrence C .tbc K xs hC
  ⟨h', h1⟩

/-- **chunking**: however the bytes are split over calls — empty calls and calls longer than the
    key included — the result is that of one call on the concatenation (both directions, any state) -/
theorem C08_chunking (h : Half) (chunks : List Bytes) :
    runChunks (Half.encrypt .tbc) h chunks = Half.encrypt .tbc h chunks.flatten ∧
    runChunks (Half.decrypt .tbc) h chunks = Half.decrypt .tbc h chunks.flatten :=
  ⟨runChunks_flatten _ h chunks, runChunks_flatten _ h chunks⟩

/-- zero-length calls change nothing -/
theorem C08_empty_call (h : Half) :
    Half.encrypt .tbc h [] = .ok (h, []) ∧ Half.decrypt .tbc h [] = .ok (h, []) := ⟨rfl, rfl⟩

/-- **exact inverse, one step, every state**: for each of the 20·256 pairs of position and previous byte,
    whatever the key, and each of the 256 input bytes, a decrypter in the same state maps the encrypter's output byte back to the input
    byte, and both end in the same state (algebra on bytes, not enumeration) -/
theorem C08_inverse_step (e d : Half) (x : UInt8) (hi : e.Inv 20)
    (hk : d.key = e.key) (hx : d.index = e.index) (hp : d.prev = e.prev) :
    ∃ e' d' c, encStep Gen.tbcEncMod e x = .ok (e', c) ∧ decStep Gen.tbcDecMod d c = .ok (d', x) ∧
      e'.Inv 20 ∧ d'.key = e'.key ∧ d'.index = e'.index ∧ d'.prev = e'.prev :=
  inverse_step 20 e d x hi hk hx hp

/-- **round trip, indefinitely**: for every session key (hence every derived 20-byte key), every
    stream, every partition of the plaintext into calls on the sender and every (independent)
    partition of the ciphertext into calls on the receiver, the receiver — built by the *decrypter's*
    constructor with its own copy of the seed — recovers the sender's bytes exactly and the two
    halves end in equal states (same key, position, previous byte), so the next header round-trips too -/
theorem C08_roundtrip (C : Crypto) (hC : C.WF) (K : Bytes) (sendChunks recvChunks : List Bytes)
    (cipher : Bytes) (e' : Half)
    (hsend : runChunks (Half.encrypt .tbc) (Half.newEnc C .tbc K) sendChunks = .ok (e', cipher))
    (hpart : recvChunks.flatten = cipher) :
    ∃ d', runChunks (Half.decrypt .tbc) (Half.newDec C .tbc K) recvChunks = .ok (d', sendChunks.flatten) ∧
      d'.key = e'.key ∧ d'.index = e'.index ∧ d'.prev = e'.prev :=
  Half.roundtrip_fresh C .tbc K sendChunks recvChunks cipher e' hsend hpart

/-- **round trip from any pair of equal states** (the induction step "equal before ⇒ recovered and equal
    after", usable at any point of a connection, with no reference to how the halves were made): for
    every encrypter half `e0` and decrypter half `d0` holding the same key, position and previous byte,
    with the invariant (`key.length = 20`, `index < 20`) — any 20-byte key, not only an HMAC output, every stream and every partition
    of it into calls on the sender: the sender does not panic and emits the recurrence from its current
    position; for every (independent) partition of that ciphertext into calls on the receiver, the
    receiver recovers the sender's bytes exactly, and the two halves end equal again with the
    invariant kept — so the theorem applies again to whatever is sent next -/
theorem C08_roundtrip_from_equal_states (e0 d0 : Half) (hlen : e0.key.length = 20) (hidx : e0.index < 20)
    (hk : d0.key = e0.key) (hx : d0.index = e0.index) (hp : d0.prev = e0.prev)
    (sendChunks : List Bytes) :
    ∃ e', runChunks (Half.encrypt .tbc) e0 sendChunks =
        .ok (e', Spec.recEnc e0.key e0.index e0.prev sendChunks.flatten) ∧
      e'.key = e0.key ∧ e'.key.length = 20 ∧ e'.index < 20 ∧
      ∀ recvChunks : List Bytes,
        recvChunks.flatten = Spec.recEnc e0.key e0.index e0.prev sendChunks.flatten →
        ∃ d', runChunks (Half.decrypt .tbc) d0 recvChunks = .ok (d', sendChunks.flatten) ∧
          d'.key = e'.key ∧ d'.index = e'.index ∧ d'.prev = e'.prev ∧ d' = e' :=
  Half.roundtrip_from_equal_states .tbc e0 d0 hlen hidx hk hx hp sendChunks

/-- the same in the form of `C08_roundtrip` (the sender's result as a hypothesis) -/
theorem C08_roundtrip_from_equal_states' (e0 d0 : Half) (hlen : e0.key.length = 20) (hidx : e0.index < 20)
    (hk : d0.key = e0.key) (hx : d0.index = e0.index) (hp : d0.prev = e0.prev)
    (sendChunks recvChunks : List Bytes) (cipher : Bytes) (e' : Half)
    (hsend : runChunks (Half.encrypt .tbc) e0 sendChunks = .ok (e', cipher))
    (hpart : recvChunks.flatten = cipher) :
    ∃ d', runChunks (Half.decrypt .tbc) d0 recvChunks = .ok (d', sendChunks.flatten) ∧
      d'.key = e'.key ∧ d'.index = e'.index ∧ d'.prev = e'.prev ∧
      e'.key.length = 20 ∧ e'.index < 20 :=
  Half.roundtrip_from_equal_states' .tbc e0 d0 hlen hidx hk hx hp sendChunks recvChunks cipher e' hsend hpart

/-- non-vacuity of `C08_roundtrip_from_equal_states`: a mid-connection state (position 18, previous byte
    0x5a) two bytes before the key wraps around; five bytes sent in three calls (one empty) -/
example :
    let K := (List.range 20).map UInt8.ofNat
    ∃ e', runChunks (Half.encrypt .tbc) ⟨K, 18, 0x5a⟩ [[1, 2], [], [3, 4, 5]] =
        .ok (e', Spec.recEnc K 18 0x5a [1, 2, 3, 4, 5]) ∧ e'.key.length = 20 ∧ e'.index < 20 :=
  have ⟨e', h, _, hl, hi, _⟩ := C08_roundtrip_from_equal_states ⟨(List.range 20).map UInt8.ofNat, 18, 0x5a⟩
    ⟨(List.range 20).map UInt8.ofNat, 18, 0x5a⟩ (by decide) (by decide) rfl rfl rfl [[1, 2], [], [3, 4, 5]]
  ⟨e', h, hl, hi⟩
/-- … and by evaluation: the position has wrapped to 3, the receiver (calls of 4 and 1 bytes) is in the same state -/
example :
    (let K := (List.range 20).map UInt8.ofNat
     match runChunks (Half.encrypt .tbc) ⟨K, 18, 0x5a⟩ [[1, 2], [], [3, 4, 5]] with
     | .panic _ => false
     | .ok (e', c) =>
       match runChunks (Half.decrypt .tbc) ⟨K, 18, 0x5a⟩ [c.take 4, c.drop 4] with
       | .panic _ => false
       | .ok (d', p) => d' == e' && p == [1, 2, 3, 4, 5] && e'.index == 3 && c != p) = true := by
  decide

/-! non-vacuity: the hypotheses are met by concrete, non-trivial data. `Crypto.real` (executable
    SHA-1/HMAC) derives a 20-byte key from a 40-byte session key, and a chunked stream longer than
    the key is encrypted and decrypted. (Tests, evaluated by the kernel.) -/
example : (Crypto.real.hmac Gen.tbcSeedEnc ((List.range 40).map UInt8.ofNat)).length = 20 := by
  rw [Crypto.real_eq_fast]; decide +kernel
example :
    (let K := (List.range 40).map UInt8.ofNat
     let xs : List Bytes := [[1, 2], [], (List.range 25).map UInt8.ofNat]
     match runChunks (Half.encrypt .tbc) (Half.newEnc Crypto.real .tbc K) xs with
     | .panic _ => false
     | .ok (e', c) =>
       match runChunks (Half.decrypt .tbc) (Half.newDec Crypto.real .tbc K) [c.take 3, c.drop 3] with
       | .panic _ => false
       | .ok (d', p) => d' == e' && p == xs.flatten && e'.index == 7 && e'.key.length == 20 && c != xs.flatten) = true := by
  rw [Crypto.real_eq_fast]; decide +kernel

end WowSrp

#print axioms WowSrp.C08_roundtrip_from_equal_states
#print axioms WowSrp.C08_roundtrip_from_equal_states'
