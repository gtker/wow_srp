/-
C13 — Credential strings: exactly 1..16 printable ASCII bytes, upper-cased.

A Rust `&str` is a `List Char` (Unicode scalar values); `utf8Len` is its `len()` in bytes.
Vocabulary (defined in Lemmas/NStr.lean, independent of the model):
* `upperSpec c`  — the byte `c` is stored as: `a..z ↦ A..Z`, every other code unchanged
                   (pinned down numerically by `C13_upperSpec_spec`);
* `SameUpToAsciiCase cs cs'` — same length, and position by position the characters are equal or
                   one is `a..z` and the other the corresponding `A..Z`;
* `bytesToChars` (model) — read stored text back as a string.
-/
import WowSrp.Lemmas.NStr
namespace WowSrp

/-- tie to the source: `MAXIMUM_STRING_LENGTH_IN_BYTES` is 16 (re-checked against the regenerated
    constants on every run) -/
theorem C13_constants : Gen.maximumStringLength = 16 ∧ maxLen = 16 := by decide

/-- what `upperSpec` is, numerically: a lower-case ASCII letter loses 32 (`a..z ↦ A..Z`), every other
    ASCII character keeps its code -/
theorem C13_upperSpec_spec (c : Char) :
    (0x61 ≤ c.toNat ∧ c.toNat ≤ 0x7A → (upperSpec c).toNat = c.toNat - 32) ∧
    (¬ (0x61 ≤ c.toNat ∧ c.toNat ≤ 0x7A) → c.toNat < 128 → (upperSpec c).toNat = c.toNat) := by
  rw [upperSpec_eq, UInt8.toNat_ofNat', upperCode]
  exact ⟨fun h => by rw [if_pos h]; omega, fun h _ => by rw [if_neg h]; omega⟩

/-- **acceptance**: a string is accepted iff it is 1..16 bytes long and consists solely of the ASCII
    characters 0x20..0x7E — for every string whatsoever -/
theorem C13_accept_iff (cs : List Char) :
    (∃ n, NStr.new cs = .ok n) ↔
      (1 ≤ utf8Len cs ∧ utf8Len cs ≤ 16 ∧ ∀ c ∈ cs, 0x20 ≤ c.toNat ∧ c.toNat ≤ 0x7E) :=
  ⟨fun ⟨n, h⟩ => ((new_ok_iff cs n).mp h).1, fun h => ⟨_, (new_ok_iff cs _).mpr ⟨h, rfl⟩⟩⟩

/-- **value**: when accepted, the text view is the input with `a..z ↦ A..Z` and nothing else changed,
    the stored length is the input's length (in characters = in bytes), the array is the text followed
    by zeros up to 16 bytes, and the `as_ref()` of the Rust (`from_utf8(&s[..length]).unwrap()`)
    neither slices out of range nor fails to decode -/
theorem C13_value (cs : List Char) (n : NStr) (h : NStr.new cs = .ok n) :
    n.asRef = cs.map upperSpec ∧
    n.length = cs.length ∧ n.length = utf8Len cs ∧
    n.s = n.asRef ++ List.replicate (16 - cs.length) 0 ∧ n.s.length = 16 ∧
    n.asRefOut = .ok n.asRef := by
  obtain ⟨⟨_, h2, hall⟩, rfl⟩ := (new_ok_iff cs n).mp h
  have hl := utf8Len_eq_length hall
  have hlen : (cs.map upperSpec).length = cs.length := List.length_map _
  refine ⟨NStr.asRef_ofText _, hlen, hlen.trans hl.symm, ?_, ?_,
    (NStr.asRef_ofText _).symm ▸ NStr.asRefOut_ofText (by omega) fun b hb => (upperSpec_mem hall b hb).1⟩
  · rw [NStr.asRef_ofText, ← hlen]; rfl
  · simp [NStr.ofText, padTo]; omega

/-- **length errors**: empty or over-long (in bytes) input is reported as a length error,
    regardless of its content -/
theorem C13_errors_length (cs : List Char) (h : utf8Len cs = 0 ∨ utf8Len cs > 16) :
    NStr.new cs = .err .tooLong := by
  rw [new_eq, if_pos h]

/-- **character errors**: an input of 1..16 bytes containing a character outside 0x20..0x7E is
    refused reporting the *first* such character -/
theorem C13_errors_first (pre : List Char) (c : Char) (post : List Char)
    (h1 : 1 ≤ utf8Len (pre ++ c :: post)) (h2 : utf8Len (pre ++ c :: post) ≤ 16)
    (hpre : ∀ x ∈ pre, 0x20 ≤ x.toNat ∧ x.toNat ≤ 0x7E)
    (hc : ¬ (0x20 ≤ c.toNat ∧ c.toNat ≤ 0x7E)) :
    NStr.new (pre ++ c :: post) = .err (.notAllowed c) := by
  rw [new_eq, if_neg (by omega), List.find?_eq_some_iff_append.mpr
    ⟨by simpa using show ¬ Allowed c from hc, pre, post, rfl,
      by simpa using show ∀ x ∈ pre, Allowed x from hpre⟩]

/-- the three cases above are exhaustive: every string is accepted, or has a bad length, or has a
    first offending character -/
theorem C13_errors (cs : List Char) :
    (utf8Len cs = 0 ∨ utf8Len cs > 16 → NStr.new cs = .err .tooLong) ∧
    (1 ≤ utf8Len cs → utf8Len cs ≤ 16 → (¬ ∀ c ∈ cs, 0x20 ≤ c.toNat ∧ c.toNat ≤ 0x7E) →
      ∃ pre c post, cs = pre ++ c :: post ∧ (∀ x ∈ pre, 0x20 ≤ x.toNat ∧ x.toNat ≤ 0x7E) ∧
        ¬ (0x20 ≤ c.toNat ∧ c.toNat ≤ 0x7E) ∧ NStr.new cs = .err (.notAllowed c)) := by
  refine ⟨C13_errors_length cs, fun h1 h2 hall => ?_⟩
  cases hf : cs.find? (¬ Allowed ·) with
  | none => exact absurd (by simpa [Allowed] using hf) hall
  | some c =>
    obtain ⟨hc, pre, post, rfl, hp⟩ := List.find?_eq_some_iff_append.mp hf
    have hc : ¬ Allowed c := by simpa using hc
    have hp : ∀ x ∈ pre, Allowed x := by simpa using hp
    exact ⟨pre, c, post, rfl, hp, hc, C13_errors_first pre c post h1 h2 hp hc⟩

/-- **no panic**: no string — multi-byte characters at the 16-byte limit included — makes the
    constructor panic (the character index never exceeds the byte index) -/
theorem C13_no_panic (cs : List Char) : ∀ p, NStr.new cs ≠ .panic p := new_no_panic cs

/-- **idempotent**: re-normalising the stored text gives the same value -/
theorem C13_idempotent (cs : List Char) (n : NStr) (h : NStr.new cs = .ok n) :
    NStr.new (bytesToChars n.asRef) = .ok n := NStr.new_bytesToChars_asRef cs n h

/-- **case-insensitive**: two strings that agree up to ASCII letter case get the same result —
    the same value when accepted, and the same error otherwise -/
theorem C13_case_insensitive (cs cs' : List Char) (h : SameUpToAsciiCase cs cs') :
    NStr.new cs = NStr.new cs' := new_congr (sameCase_iff.mp h)

/-- in particular acceptance is insensitive to case -/
theorem C13_case_insensitive_accept (cs cs' : List Char) (h : SameUpToAsciiCase cs cs') (n : NStr) :
    NStr.new cs = .ok n ↔ NStr.new cs' = .ok n := by
  rw [C13_case_insensitive cs cs' h]

/-- and conversely: two accepted strings get the same value *exactly* when they agree up to ASCII
    letter case (nothing else is identified by normalisation) -/
theorem C13_same_value_iff (cs cs' : List Char) (n n' : NStr)
    (h : NStr.new cs = .ok n) (h' : NStr.new cs' = .ok n') :
    n = n' ↔ SameUpToAsciiCase cs cs' := by
  constructor
  · rintro rfl
    obtain ⟨⟨_, _, hall⟩, e⟩ := (new_ok_iff cs n).mp h
    obtain ⟨⟨_, _, hall'⟩, e'⟩ := (new_ok_iff cs' n).mp h'
    rw [sameCase_iff, ← map_toNat_upperSpec hall, ← map_toNat_upperSpec hall',
      NStr.ofText_inj (congrArg NStr.asRef (e.symm.trans e'))]
  · intro hs
    rw [C13_case_insensitive cs cs' hs, h'] at h
    cases h; rfl

/-- **ordering and equality follow the text**: for values produced by the constructor, the derived
    `Ord` on (zero-padded array, length) is the lexicographic byte order on the text (no stored byte
    is zero, so padding sorts first exactly as "shorter" does), and two values are equal iff their
    texts are — so `==`, `cmp` and `Hash` are functions of the normalised text alone -/
theorem C13_ord (ca cb : List Char) (a b : NStr) (ha : NStr.new ca = .ok a) (hb : NStr.new cb = .ok b) :
    NStr.derivedCmp a b = lexCmp a.asRef b.asRef ∧ (a = b ↔ a.asRef = b.asRef) := by
  obtain ⟨⟨_, ha2, halla⟩, rfl⟩ := (new_ok_iff ca a).mp ha
  obtain ⟨⟨_, hb2, hallb⟩, rfl⟩ := (new_ok_iff cb b).mp hb
  have hla := utf8Len_eq_length halla
  have hlb := utf8Len_eq_length hallb
  refine ⟨?_, fun h => h ▸ rfl, fun h => by rw [NStr.ofText_inj h]⟩
  rw [NStr.asRef_ofText, NStr.asRef_ofText, ← derived_eq_text 16 _ _
    (fun x hx => (upperSpec_mem halla x hx).2) (fun x hx => (upperSpec_mem hallb x hx).2)
    (by rw [List.length_map]; omega) (by rw [List.length_map]; omega)]
  rfl

/-- "alice" is accepted and stored as "ALICE" (0x41 0x4C 0x49 0x43 0x45) -/
example : ∃ n, NStr.new ['a', 'l', 'i', 'c', 'e'] = .ok n ∧ n.asRef = [0x41, 0x4C, 0x49, 0x43, 0x45] ∧
    n.length = 5 := by
  refine ⟨_, new_ok _ (by decide) (by decide) (by decide), by decide, rfl⟩

/-- a 16-byte string is accepted -/
example : ∃ n, NStr.new ("0123456789abcde~".toList) = .ok n ∧ n.length = 16 :=
  ⟨_, new_ok _ (by decide) (by decide) (by decide), rfl⟩

/-- a 17-byte string is refused as too long -/
example : NStr.new ("0123456789abcdefg".toList) = .err .tooLong :=
  C13_errors_length _ (by decide)

/-- eight 2-byte characters (16 bytes, 8 characters): passes the length gate, rejected on the first
    character, no panic -/
example : utf8Len (List.replicate 8 'ž') = 16 ∧
    NStr.new (List.replicate 8 'ž') = .err (.notAllowed 'ž') :=
  ⟨by decide, C13_errors_first [] 'ž' (List.replicate 7 'ž') (by decide) (by decide) (by simp) (by decide)⟩

/-- fifteen ASCII characters followed by a 2-byte character: 17 bytes, refused as too long
    although only 16 characters -/
example : NStr.new ("0123456789abcde".toList ++ ['ž']) = .err .tooLong :=
  C13_errors_length _ (by decide)

/-- the empty string is a length error -/
example : NStr.new [] = .err .tooLong := C13_errors_length _ (by decide)

/-- characters the test list of the crate omits (`"`, `:`, `;`, `\`) are accepted unchanged -/
example : ∃ n, NStr.new ['"', ':', ';', '\\'] = .ok n ∧ n.asRef = [0x22, 0x3A, 0x3B, 0x5C] :=
  ⟨_, new_ok _ (by decide) (by decide) (by decide), by decide⟩

/-- "Alice" and "aLICE" agree up to case -/
example : SameUpToAsciiCase ['A', 'l', 'i', 'c', 'e'] ['a', 'L', 'I', 'C', 'E'] := by decide

end WowSrp
