/-
C02 (continued) — a client that used ANOTHER PASSWORD (or another username) and is accepted.

`C02_wrong_password_partial` (Props/C02.lean) stops at "explicit M1 collision ∨ both sides hold the same
session key" and has no hypothesis `pw' ≠ pw`. Here the second disjunct is taken apart with the
equations of Lemmas/Srp.lean (`fromUsernameAndPassword_spec`, `intoProof_spec`,
`SrpClientChallenge.new_eq`, `calculateSessionKey_eq`): both session keys are
`Spec.K C S = SHA_Interleave(LE32(S))` of the two shared secrets

    S₁ = Sclient(B, x', a, u) = (B − 3·g^x')^(a + u·x') mod N'      (client, x' from the password typed)
    S₂ = Sserver(A, v, u, b)  = (A·v^u)^b mod N                     (server, v = 7^x mod N stored)

and acceptance of a client that typed another password leaves exactly these possibilities, each with an
explicit witness:
  (a) the two M1 inputs are different strings with the same SHA-1 (pinned pair);
  (b) `S₁ ≠ S₂` (as numbers and as 32-byte little-endian strings) but `Spec.K C S₁ = Spec.K C S₂`:
      the session-key derivation maps two different secrets to one key (`C02_interleave_collision` splits
      that further: a SHA-1 collision on the half strings, or the two secrets differ only in the
      low-order bytes SHA_Interleave discards);
  (c) `S₁ = S₂` as numbers, and then
      (c1) `x' = x` although the passwords differ: an explicit SHA-1 collision inside `calculate_x`
           (`U ":" pw` vs `U ":" pw'`, or the outer inputs `salt | H(..)`), or
      (c2) `x' ≠ x`: the arithmetic coincidence `(B − 3·g^x')^(a+u·x') ≡ (A·v^u)^b`. This one is NOT a
           hash event and cannot be excluded for all `a, b` (see the example "case (c2) occurs" below:
           for a hash with `u = 0` and the degenerate draws `a = b = 0` it happens).
No collision resistance is assumed; `C : Crypto` is arbitrary (`C.WF` = output lengths).

For another USERNAME nothing is left over: the name enters M1 through `H(U)`, so acceptance always
exhibits a SHA-1 collision (`C02_wrong_username_collision`).
-/
import WowSrp.Props.C02
import WowSrp.Props.C03
import WowSrp.Lemmas.NStr
import WowSrp.Lemmas.Eval
namespace WowSrp

/-- the text view of a string accepted by `NormalizedString::new` determines the value (the array is
    the text followed by zeros, the length is the text's length): two accepted strings with the same
    text are the same value -/
theorem C02_accepted_text_inj (cs cs' : List Char) (n n' : NStr)
    (h : NStr.new cs = .ok n) (h' : NStr.new cs' = .ok n') (ht : n.asRef = n'.asRef) : n = n' := by
  obtain ⟨_, rfl⟩ := (new_ok_iff cs n).1 h
  obtain ⟨_, rfl⟩ := (new_ok_iff cs' n').1 h'
  rw [NStr.ofText_inj ht]

/-- **`calculate_x` collision**: equal `x` for two different passwords exhibits a SHA-1 collision, either
    of the inner inputs `U ":" P`, `U ":" P'` or of the outer inputs `salt | H(U ":" P)`, `salt | H(U ":" P')` -/
theorem C02_x_collision (C : Crypto) (hC : C.WF) (U P P' salt : Bytes) (hP : P' ≠ P)
    (hx : Spec.x C U P' salt = Spec.x C U P salt) :
    ∃ m₁ m₂, m₁ ≠ m₂ ∧ C.sha1 m₁ = C.sha1 m₂ ∧
      ((m₁ = U ++ [0x3a] ++ P ∧ m₂ = U ++ [0x3a] ++ P') ∨
       (m₁ = salt ++ C.sha1 (U ++ [0x3a] ++ P) ∧ m₂ = salt ++ C.sha1 (U ++ [0x3a] ++ P'))) := by
  have houter : C.sha1 (salt ++ C.sha1 (U ++ [0x3a] ++ P)) =
      C.sha1 (salt ++ C.sha1 (U ++ [0x3a] ++ P')) :=
    ofLE_inj _ _ (by rw [hC.sha1_len, hC.sha1_len]) hx.symm
  by_cases hin : C.sha1 (U ++ [0x3a] ++ P) = C.sha1 (U ++ [0x3a] ++ P')
  · refine ⟨_, _, ?_, hin, Or.inl ⟨rfl, rfl⟩⟩
    intro h
    exact hP (List.append_cancel_left h).symm
  · refine ⟨_, _, ?_, houter, Or.inr ⟨rfl, rfl⟩⟩
    intro h
    exact hin (List.append_cancel_left h)

/-- the residual of case (c2) written as the congruence it is: the client's secret is the non-negative
    remainder of the integer power, so `Sclient = Sserver` says
    `(B − 3·(g^x' mod N'))^(a + u·x') mod N' = (A·(v^u mod N))^b mod N` -/
theorem C02_residual_is_congruence (B x' a u g N' A v b : Nat) (hN : 0 < N') :
    Spec.Sclient B x' a u g N' = Spec.Sserver A v u b ↔
      ((B : Int) - 3 * ((g ^ x' % N' : Nat) : Int)) ^ (a + u * x') % (N' : Int) =
        (((A * (v ^ u % Spec.N)) ^ b % Spec.N : Nat) : Int) := by
  rw [← (C03_client_S_range B x' a u g N' hN).2]
  unfold Spec.Sserver
  exact Int.natCast_inj.symm

/-- **wrong password, three ways** (text form: the hypothesis is that the two password TEXTS differ).
    Server record made by the API from `(U, pw, salt)` (`from_username_and_password`, then `into_proof`
    with drawn private key `b`); a client that ran `SrpClientChallenge::new` with the same username, the
    password `pw'`, the `B` and salt the server sent, any announced 32-byte group `(g, N')` and any drawn
    private key `a`; the server accepts the client's `A` and `M1`. Then the two session keys are the
    interleaves of the two Spec secrets, and one of (a), (b), (c1), (c2) of the file header holds. -/
theorem C02_wrong_password_three_way_of_text (C : Crypto) (hC : C.WF) (be : Backend)
    (U pw pw' : NStr) (salt b a chal : Bytes) (g : Nat) (nLE : Bytes)
    (ver : SrpVerifier) (p : SrpProof) (cc : SrpClientChallenge) (srv : SrpServer) (M2 : Bytes)
    (hpw : pw'.asRef ≠ pw.asRef)
    (hver : SrpVerifier.fromUsernameAndPassword C be U pw salt = .ok ver)
    (hproof : ver.intoProof be b = .ok p)
    (hN : 0 < ofLE nLE) (hl : nLE.length = 32)
    (hclient : SrpClientChallenge.new C be U pw' g nLE p.serverPublicKey p.salt a = .ok cc)
    (hacc : p.intoServer C be cc.clientPublicKey cc.clientProof chal = .ok (.ok (srv, M2))) :
    let x  := Spec.x C U.asRef pw.asRef salt
    let x' := Spec.x C U.asRef pw'.asRef salt
    let v  := 7 ^ x % Spec.N
    let B  := Spec.B v (ofLE b)
    let A  := g ^ ofLE a % ofLE nLE
    let u  := Spec.u C A B
    let S₁ := Spec.Sclient B x' (ofLE a) u g (ofLE nLE)
    let S₂ := Spec.Sserver A v u (ofLE b)
    cc.sessionKey = Spec.K C S₁ ∧ srv.sessionKey = Spec.K C S₂ ∧
    ((∃ m₁ m₂,
        m₁ = Gen.precalculatedXorHash ++ C.sha1 U.asRef ++ salt ++ leN 32 A ++ leN 32 B ++ Spec.K C S₂ ∧
        m₂ = calculateXorHash C nLE g ++ C.sha1 U.asRef ++ salt ++ leN 32 A ++ leN 32 B ++ Spec.K C S₁ ∧
        m₁ ≠ m₂ ∧ C.sha1 m₁ = C.sha1 m₂) ∨
     (S₁ ≠ S₂ ∧ leN 32 S₁ ≠ leN 32 S₂ ∧ Spec.K C S₁ = Spec.K C S₂) ∨
     (S₁ = S₂ ∧ x' = x ∧
        ∃ m₁ m₂, m₁ ≠ m₂ ∧ C.sha1 m₁ = C.sha1 m₂ ∧
          ((m₁ = U.asRef ++ [0x3a] ++ pw.asRef ∧ m₂ = U.asRef ++ [0x3a] ++ pw'.asRef) ∨
           (m₁ = salt ++ C.sha1 (U.asRef ++ [0x3a] ++ pw.asRef) ∧
            m₂ = salt ++ C.sha1 (U.asRef ++ [0x3a] ++ pw'.asRef)))) ∨
     (S₁ = S₂ ∧ x' ≠ x)) := by
  intro x x' v B A u S₁ S₂
  have h32 : ofLE nLE ≤ 256 ^ 32 := Nat.le_of_lt (ofLE_lt_of_length_le (Nat.le_of_eq hl))
  -- M1 level, still in terms of the objects
  have hKs := calculateSessionKey_eq C hC be cc.clientPublicKey p.serverPublicKey p.passwordVerifier
    p.serverPrivateKey
  have hpart := C02_wrong_password_partial C hC be U pw' g nLE _ _ a cc p chal _ srv M2 hclient hKs rfl rfl hacc
  have hsrv := ((C02_server_iff C be p _ _ chal _ hKs srv M2).1 hacc).2.1
  -- the objects, read off the equations of `Lemmas/Srp.lean`
  rw [SrpVerifier.fromUsernameAndPassword_spec] at hver
  cases hver
  rw [SrpVerifier.intoProof_spec] at hproof
  split at hproof
  · cases hproof
  cases hproof
  rw [SrpClientChallenge.new_eq C hC be U pw' g nLE _ _ a hN h32] at hclient
  split at hclient
  · cases hclient
  cases hclient
  cases hsrv
  simp only [ofLE_leN_v, ofLE_leN_B, ofLE_leN_A g _ nLE hN h32,
    calculateU_spec C _ _ (leN_length _ _) (leN_length _ _)] at hpart ⊢
  -- (a), or equal session keys; those are taken apart by `S₁ = S₂` and `x' = x`
  refine ⟨rfl, rfl, hpart.imp_right fun hk => ?_⟩
  by_cases hS : S₁ = S₂
  · by_cases hx : x' = x
    · exact .inr (.inl ⟨hS, hx, C02_x_collision C hC U.asRef pw.asRef pw'.asRef salt hpw hx⟩)  -- (c1)
    · exact .inr (.inr ⟨hS, hx⟩)  -- (c2)
  · -- (b): both secrets fit 32 bytes, so their encodings differ too
    have hS1 : S₁ < 256 ^ 32 := Nat.lt_of_lt_of_le (C03_client_S_range _ _ _ _ _ _ hN).1 h32
    have hS2 : S₂ < 256 ^ 32 := Nat.lt_trans (Nat.mod_lt _ specN_pos) specN_lt
    exact .inl ⟨hS, fun h => hS (leN_inj 32 S₁ S₂ hS1 hS2 h), hk⟩

/-- **wrong password, three ways** (`pw' ≠ pw`, both accepted by `NormalizedString::new`) -/
theorem C02_wrong_password_three_way (C : Crypto) (hC : C.WF) (be : Backend)
    (U pw pw' : NStr) (cpw cpw' : List Char) (salt b a chal : Bytes) (g : Nat) (nLE : Bytes)
    (ver : SrpVerifier) (p : SrpProof) (cc : SrpClientChallenge) (srv : SrpServer) (M2 : Bytes)
    (hok : NStr.new cpw = .ok pw) (hok' : NStr.new cpw' = .ok pw') (hpw : pw' ≠ pw)
    (hver : SrpVerifier.fromUsernameAndPassword C be U pw salt = .ok ver)
    (hproof : ver.intoProof be b = .ok p)
    (hN : 0 < ofLE nLE) (hl : nLE.length = 32)
    (hclient : SrpClientChallenge.new C be U pw' g nLE p.serverPublicKey p.salt a = .ok cc)
    (hacc : p.intoServer C be cc.clientPublicKey cc.clientProof chal = .ok (.ok (srv, M2))) :
    let x  := Spec.x C U.asRef pw.asRef salt
    let x' := Spec.x C U.asRef pw'.asRef salt
    let v  := 7 ^ x % Spec.N
    let B  := Spec.B v (ofLE b)
    let A  := g ^ ofLE a % ofLE nLE
    let u  := Spec.u C A B
    let S₁ := Spec.Sclient B x' (ofLE a) u g (ofLE nLE)
    let S₂ := Spec.Sserver A v u (ofLE b)
    cc.sessionKey = Spec.K C S₁ ∧ srv.sessionKey = Spec.K C S₂ ∧
    ((∃ m₁ m₂,
        m₁ = Gen.precalculatedXorHash ++ C.sha1 U.asRef ++ salt ++ leN 32 A ++ leN 32 B ++ Spec.K C S₂ ∧
        m₂ = calculateXorHash C nLE g ++ C.sha1 U.asRef ++ salt ++ leN 32 A ++ leN 32 B ++ Spec.K C S₁ ∧
        m₁ ≠ m₂ ∧ C.sha1 m₁ = C.sha1 m₂) ∨
     (S₁ ≠ S₂ ∧ leN 32 S₁ ≠ leN 32 S₂ ∧ Spec.K C S₁ = Spec.K C S₂) ∨
     (S₁ = S₂ ∧ x' = x ∧
        ∃ m₁ m₂, m₁ ≠ m₂ ∧ C.sha1 m₁ = C.sha1 m₂ ∧
          ((m₁ = U.asRef ++ [0x3a] ++ pw.asRef ∧ m₂ = U.asRef ++ [0x3a] ++ pw'.asRef) ∨
           (m₁ = salt ++ C.sha1 (U.asRef ++ [0x3a] ++ pw.asRef) ∧
            m₂ = salt ++ C.sha1 (U.asRef ++ [0x3a] ++ pw'.asRef)))) ∨
     (S₁ = S₂ ∧ x' ≠ x)) :=
  C02_wrong_password_three_way_of_text C hC be U pw pw' salt b a chal g nLE ver p cc srv M2
    (fun h => hpw (C02_accepted_text_inj cpw' cpw pw' pw hok' hok h)) hver hproof hN hl hclient hacc

/-- **interleave collision, taken apart**: two even-length secrets (e.g. the 32-byte `LE32(S₁)`,
    `LE32(S₂)` of case (b)) with the same SHA_Interleave either give an explicit SHA-1 collision — the
    even-position or the odd-position halves of the stripped secrets are different strings with the same
    hash — or are equal after the strip, i.e. they differ only in the low-order bytes SHA_Interleave
    throws away (its documented quirk: an odd number of low-order zero bytes takes one more byte along) -/
theorem C02_interleave_collision (C : Crypto) (hC : C.WF) (s t : Bytes)
    (hs : s.length % 2 = 0) (ht : t.length % 2 = 0)
    (hK : Spec.interleave C s = Spec.interleave C t) :
    Spec.strip s = Spec.strip t ∨
    ∃ m₁ m₂, m₁ ≠ m₂ ∧ C.sha1 m₁ = C.sha1 m₂ ∧
      ((m₁ = (Spec.halves (Spec.strip s)).1 ∧ m₂ = (Spec.halves (Spec.strip t)).1) ∨
       (m₁ = (Spec.halves (Spec.strip s)).2 ∧ m₂ = (Spec.halves (Spec.strip t)).2)) := by
  -- `halves` undoes `zipInterleave`: the two SHA-1 outputs agree pairwise
  have hh := congrArg Spec.halves hK
  unfold Spec.interleave at hh
  rw [Spec.halves_zipInterleave _ _ (by rw [hC.sha1_len, hC.sha1_len]),
    Spec.halves_zipInterleave _ _ (by rw [hC.sha1_len, hC.sha1_len])] at hh
  obtain ⟨h1, h2⟩ := Prod.mk.inj hh
  by_cases e1 : (Spec.halves (Spec.strip s)).1 = (Spec.halves (Spec.strip t)).1
  · by_cases e2 : (Spec.halves (Spec.strip s)).2 = (Spec.halves (Spec.strip t)).2
    · -- both pairs of halves equal: the stripped strings are their interleavings
      left
      rw [← Spec.zipInterleave_halves _ (Spec.strip_length_even s hs), e1, e2,
        Spec.zipInterleave_halves _ (Spec.strip_length_even t ht)]
    · exact Or.inr ⟨_, _, e2, h2, Or.inr ⟨rfl, rfl⟩⟩
  · exact Or.inr ⟨_, _, e1, h1, Or.inl ⟨rfl, rfl⟩⟩

/-- case (b) in that form: `Spec.K C S₁ = Spec.K C S₂` for the 32-byte encodings -/
theorem C02_session_key_collision (C : Crypto) (hC : C.WF) (S₁ S₂ : Nat)
    (hK : Spec.K C S₁ = Spec.K C S₂) :
    Spec.strip (leN 32 S₁) = Spec.strip (leN 32 S₂) ∨
    ∃ m₁ m₂, m₁ ≠ m₂ ∧ C.sha1 m₁ = C.sha1 m₂ ∧
      ((m₁ = (Spec.halves (Spec.strip (leN 32 S₁))).1 ∧ m₂ = (Spec.halves (Spec.strip (leN 32 S₂))).1) ∨
       (m₁ = (Spec.halves (Spec.strip (leN 32 S₁))).2 ∧ m₂ = (Spec.halves (Spec.strip (leN 32 S₂))).2)) :=
  C02_interleave_collision C hC _ _ (by rw [leN_length]) (by rw [leN_length]) hK

/-- **wrong username**: ANY server record `p`, a client that ran `SrpClientChallenge::new` with a username
    whose text differs from the record's (any password, any announced group, any private key), and the
    server accepts ⇒ an explicit SHA-1 collision, always: either the two names themselves collide, or
    the two M1 inputs are different strings with the same hash. No residual: the name enters M1
    directly through `H(U)`. -/
theorem C02_wrong_username_collision (C : Crypto) (hC : C.WF) (be : Backend)
    (U' pw' : NStr) (g : Nat) (nLE a chal : Bytes) (p : SrpProof) (cc : SrpClientChallenge)
    (srv : SrpServer) (M2 : Bytes)
    (hU : U'.asRef ≠ p.username.asRef)
    (hclient : SrpClientChallenge.new C be U' pw' g nLE p.serverPublicKey p.salt a = .ok cc)
    (hacc : p.intoServer C be cc.clientPublicKey cc.clientProof chal = .ok (.ok (srv, M2))) :
    ∃ m₁ m₂, m₁ ≠ m₂ ∧ C.sha1 m₁ = C.sha1 m₂ ∧
      ((m₁ = p.username.asRef ∧ m₂ = U'.asRef) ∨
       (m₁ = Gen.precalculatedXorHash ++ C.sha1 p.username.asRef ++ p.salt ++ cc.clientPublicKey ++
              p.serverPublicKey ++ srv.sessionKey ∧
        m₂ = calculateXorHash C nLE g ++ C.sha1 U'.asRef ++ p.salt ++ cc.clientPublicKey ++
              p.serverPublicKey ++ cc.sessionKey)) := by
  rcases C02_accepted_client C hC be U' pw' g nLE _ _ a cc p chal _ srv M2 hclient
      (calculateSessionKey_eq C hC ..) rfl rfl hacc with ⟨m₁, m₂, e1, e2, hne, hh⟩ | ⟨hu, _⟩
  · exact ⟨m₁, m₂, hne, hh, Or.inr ⟨e1, e2⟩⟩
  · exact ⟨_, _, fun h => hU h.symm, hu, Or.inl ⟨rfl, rfl⟩⟩

/-- **wrong username at the API** (a record made from `(U, pw, salt)`, a client that used
    `(U', pw', salt)` with `U' ≠ U`, both names accepted by `NormalizedString::new`; the client's
    password is arbitrary — the right one included): acceptance exhibits a SHA-1 collision -/
theorem C02_wrong_username_three_way (C : Crypto) (hC : C.WF) (be : Backend)
    (U U' pw pw' : NStr) (cu cu' : List Char) (salt b a chal : Bytes) (g : Nat) (nLE : Bytes)
    (ver : SrpVerifier) (p : SrpProof) (cc : SrpClientChallenge) (srv : SrpServer) (M2 : Bytes)
    (hok : NStr.new cu = .ok U) (hok' : NStr.new cu' = .ok U') (hU : U' ≠ U)
    (hver : SrpVerifier.fromUsernameAndPassword C be U pw salt = .ok ver)
    (hproof : ver.intoProof be b = .ok p)
    (hclient : SrpClientChallenge.new C be U' pw' g nLE p.serverPublicKey p.salt a = .ok cc)
    (hacc : p.intoServer C be cc.clientPublicKey cc.clientProof chal = .ok (.ok (srv, M2))) :
    ∃ m₁ m₂, m₁ ≠ m₂ ∧ C.sha1 m₁ = C.sha1 m₂ ∧
      ((m₁ = U.asRef ∧ m₂ = U'.asRef) ∨
       (m₁ = Gen.precalculatedXorHash ++ C.sha1 U.asRef ++ salt ++ cc.clientPublicKey ++
              p.serverPublicKey ++ srv.sessionKey ∧
        m₂ = calculateXorHash C nLE g ++ C.sha1 U'.asRef ++ salt ++ cc.clientPublicKey ++
              p.serverPublicKey ++ cc.sessionKey)) := by
  rw [SrpVerifier.fromUsernameAndPassword_spec] at hver
  cases hver
  rw [SrpVerifier.intoProof_spec] at hproof
  split at hproof
  · cases hproof
  cases hproof
  exact C02_wrong_username_collision C hC be U' pw' g nLE a chal _ cc srv M2
    (fun h => hU (C02_accepted_text_inj cu' cu U' U hok' hok h)) hclient hacc

/-! ### non-vacuity: each residual case does occur for SOME hash — the theorem is generic in `C`

For the real SHA-1 no witness of any of the four cases can be written down: (a), (b), (c1) are SHA-1
collisions of prescribed shape (none is known), and (c2) asks for draws `a, b` with
`(B − 3·7^x')^(a+u·x') ≡ (A·v^u)^b (mod N)`, `u = SHA-1(A | B)` depending on both — a 256-bit coincidence
(or a discrete-logarithm computation in the 256-bit group) that cannot be produced by evaluation. What can
be shown is that the hypotheses are jointly satisfiable and that the residual cases (c2) and (b) are
inhabited for hashes chosen for the purpose; (c1) is the example at the end of Props/C02.lean (constant
hash: every password has the same `x`). -/
section
private def sum8 (m : Bytes) : UInt8 := m.foldl (· + ·) 0
private def rep20 (x : UInt8) : Bytes := List.replicate 20 x
/-- a hash that is 0 on the 64-byte input of `u = H(A | B)`, ignores the xor-hash prefix of the
    176-byte M1 input, and is a byte sum otherwise (so different passwords give different `x`) -/
private def Ctoy : Crypto :=
  ⟨fun m => if m.length = 64 then rep20 0 else rep20 (sum8 (if m.length = 176 then m.drop 20 else m)),
   fun _ _ => rep20 0, fun _ => List.replicate 16 0⟩
/-- the same, but 0 on 16-byte inputs (the halves of a 32-byte secret) instead of on 64-byte ones -/
private def Chalf : Crypto :=
  ⟨fun m => if m.length = 16 then rep20 0 else rep20 (sum8 (if m.length = 176 then m.drop 20 else m)),
   fun _ _ => rep20 0, fun _ => List.replicate 16 0⟩

example : Ctoy.WF :=
  ⟨fun m => by show (if _ then _ else _ : Bytes).length = 20; split <;> rfl, fun _ _ => rfl, fun _ => rfl⟩
example : Chalf.WF :=
  ⟨fun m => by show (if _ then _ else _ : Bytes).length = 20; split <;> rfl, fun _ _ => rfl, fun _ => rfl⟩

private def z15 : Bytes := List.replicate 15 0
private def z31 : Bytes := List.replicate 31 0
private def z32 : Bytes := List.replicate 32 0
private def uA : NStr := ⟨0x41 :: z15, 1⟩
private def pA : NStr := ⟨0x41 :: z15, 1⟩
private def pB : NStr := ⟨0x42 :: z15, 1⟩
private def salt5 : Bytes := List.replicate 32 5
private def vA : Bytes :=
  [85, 236, 113, 213, 94, 12, 197, 184, 27, 158, 60, 101, 239, 84, 50, 147, 3, 87, 55, 94, 205, 187, 157,
   158, 241, 122, 103, 152, 181, 48, 155, 58]
private def verT : SrpVerifier := ⟨uA, vA, salt5⟩
private def keyOnes : Bytes := (List.replicate 20 [1, 0]).flatten

/-- the three names/passwords are what `NormalizedString::new` returns for "A", "A", "B" -/
example : NStr.new ['A'] = .ok uA ∧ NStr.new ['A'] = .ok pA ∧ NStr.new ['B'] = .ok pB ∧ pB ≠ pA := by
  decide

/-- **case (c2) occurs** (so the last disjunct of `C02_wrong_password_three_way` cannot be dropped in a
    theorem that holds for every hash and every draw): hash `Ctoy` (`u = 0`), degenerate draws
    `a = b = 0`, built-in group. The record is made for password "A"; the client types "B"; all
    hypotheses of the theorem hold; the two `x` differ (no hash collision is involved); both secrets
    are `1`, both session keys are equal, and the server accepts the wrong password. -/
example :
    let prfT : SrpProof :=
      ⟨uA, [73, 41, 23, 86, 149, 162, 18, 127, 195, 123, 246, 111, 63, 77, 149, 177, 183, 180, 159, 241,
            220, 215, 43, 30, 121, 29, 85, 63, 194, 45, 134, 38], salt5, z32, vA⟩
    let cclT : SrpClientChallenge := ⟨uA, rep20 161, 1 :: z31, keyOnes⟩
    SrpVerifier.fromUsernameAndPassword Ctoy .num uA pA salt5 = .ok verT ∧
    verT.intoProof .num z32 = .ok prfT ∧
    0 < ofLE Gen.largeSafePrimeLE ∧ Gen.largeSafePrimeLE.length = 32 ∧
    SrpClientChallenge.new Ctoy .num uA pB gBig Gen.largeSafePrimeLE prfT.serverPublicKey prfT.salt z32
      = .ok cclT ∧
    prfT.intoServer Ctoy .num cclT.clientPublicKey cclT.clientProof [] =
      .ok (.ok (⟨uA, keyOnes, []⟩, rep20 169)) ∧
    Spec.x Ctoy uA.asRef pB.asRef salt5 ≠ Spec.x Ctoy uA.asRef pA.asRef salt5 ∧
    (∀ B x' A v : Nat, Spec.Sclient B x' (ofLE z32) (Spec.u Ctoy A B) 7 Spec.N =
        Spec.Sserver A v (Spec.u Ctoy A B) (ofLE z32)) := by
  intro prfT cclT
  refine ⟨by decide +kernel, by decide +kernel, by decide +kernel, by decide, by decide +kernel,
    by decide +kernel, by decide +kernel, ?_⟩
  intro B x' A v
  have hu : Spec.u Ctoy A B = 0 := by
    have hlen : (leN 32 A ++ leN 32 B).length = 64 := by simp
    unfold Spec.u
    simp only [Ctoy, hlen, ↓reduceIte]
    decide
  have hz : ofLE z32 = 0 := by decide
  rw [hu, hz]
  simp only [Spec.Sclient, Spec.Sserver, Nat.zero_mul, Nat.add_zero, pow_zero]
  decide

/-- **case (b) occurs**: hash `Chalf` (0 on the 16-byte halves), draws `a = 2`, `b = 3`. The client
    typed "B" against a record for "A"; the two 32-byte secrets are different, their interleaves are
    equal, and the server accepts. -/
example :
    let prfT : SrpProof :=
      ⟨uA, [159, 42, 23, 86, 149, 162, 18, 127, 195, 123, 246, 111, 63, 77, 149, 177, 183, 180, 159, 241,
            220, 215, 43, 30, 121, 29, 85, 63, 194, 45, 134, 38], salt5, 3 :: z31, vA⟩
    let cclT : SrpClientChallenge := ⟨uA, rep20 20, 49 :: z31, List.replicate 40 0⟩
    let s₁ : Bytes :=
      [209, 14, 11, 170, 198, 31, 226, 185, 129, 94, 202, 206, 217, 206, 160, 104, 185, 110, 127, 151, 47,
       188, 115, 149, 50, 47, 213, 98, 107, 17, 93, 105]
    let s₂ : Bytes :=
      [21, 96, 68, 230, 48, 250, 179, 19, 235, 232, 94, 63, 68, 163, 36, 198, 44, 112, 82, 162, 5, 44, 77,
       216, 177, 205, 180, 165, 40, 194, 178, 24]
    SrpVerifier.fromUsernameAndPassword Chalf .num uA pA salt5 = .ok verT ∧
    verT.intoProof .num (3 :: z31) = .ok prfT ∧
    SrpClientChallenge.new Chalf .num uA pB gBig Gen.largeSafePrimeLE prfT.serverPublicKey prfT.salt
      (2 :: z31) = .ok cclT ∧
    prfT.intoServer Chalf .num cclT.clientPublicKey cclT.clientProof [] =
      .ok (.ok (⟨uA, List.replicate 40 0, []⟩, rep20 193)) ∧
    calculateClientS .num prfT.serverPublicKey (calculateX Chalf uA.asRef pB.asRef salt5) (2 :: z31)
      (calculateU Chalf cclT.clientPublicKey prfT.serverPublicKey) gBig Gen.largeSafePrimeLE = .ok s₁ ∧
    calculateS .num cclT.clientPublicKey prfT.passwordVerifier
      (calculateU Chalf cclT.clientPublicKey prfT.serverPublicKey) (3 :: z31) = .ok s₂ ∧
    s₁ ≠ s₂ ∧ Spec.interleave Chalf s₁ = Spec.interleave Chalf s₂ := by
  intro prfT cclT s₁ s₂
  refine ⟨by decide +kernel, by decide +kernel, by decide +kernel, by decide +kernel, by decide +kernel,
    by decide +kernel, by decide, by decide +kernel⟩
end

#print axioms C02_accepted_text_inj
#print axioms C02_x_collision
#print axioms C02_residual_is_congruence
#print axioms C02_wrong_password_three_way_of_text
#print axioms C02_wrong_password_three_way
#print axioms C02_interleave_collision
#print axioms C02_session_key_collision
#print axioms C02_wrong_username_collision
#print axioms C02_wrong_username_three_way

/-! ### The headline clause on the real hash

Run by the kernel on the real SHA-1 (record "A"/"A", salt 05…05, b = 3, a = 2): the client who types the password "B" is REFUSED, and so is
the client who claims the name "B" with the right password; the right credentials are accepted.  (A test, labelled as a test: the
theorems above are what holds for every input.) -/

private def realLogin (un pw : NStr) : Out Bool := do
  let ver ← SrpVerifier.fromUsernameAndPassword Crypto.real .num uA uA salt5
  let p ← ver.intoProof .num (3 :: z31)
  let cc ← SrpClientChallenge.new Crypto.real .num un pw gBig Gen.largeSafePrimeLE p.serverPublicKey p.salt (2 :: z31)
  let r ← p.intoServer Crypto.real .num cc.clientPublicKey cc.clientProof []
  pure (match r with | .ok _ => true | .error _ => false)

example : realLogin uA uA = .ok true ∧ realLogin uA ⟨0x42 :: z15, 1⟩ = .ok false ∧ realLogin ⟨0x42 :: z15, 1⟩ uA = .ok false := by
  unfold realLogin
  rw [Crypto.real_eq_fast]
  decide +kernel

end WowSrp
