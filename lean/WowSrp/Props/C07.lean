/-
C07 — Vanilla header cipher follows its recurrence and decrypts what it encrypts.
Property theorems only; helper lemmas live in Lemmas/Header.lean.
-/
import WowSrp.Lemmas.Header
namespace WowSrp

/-- tie to the source: both Vanilla halves advance their index modulo the session-key length (40);
    re-checked against the regenerated constants on every run -/
theorem C07_constants :
    Gen.vanillaEncMod = 40 ∧ Gen.vanillaDecMod = 40 ∧ Gen.sessionKeyLength = 40 := by decide

/-- a fresh Vanilla half over a 40-byte session key satisfies the bounds invariant
    (`key[index]` in range, `index + 1` fits a `u8`) -/
theorem C07_fresh_inv (C : Crypto) (K : Bytes) (hK : K.length = 40) :
    (Half.newEnc C .vanilla K).Inv 40 ∧ (Half.newDec C .vanilla K).Inv 40 :=
  ⟨Half.newEnc_inv C .vanilla K hK, Half.newDec_inv C .vanilla K hK⟩

/-- **bounds**: from every state satisfying the invariant (position 0..39, any previous byte), for
    every input byte, the step neither indexes out of bounds nor overflows, and re-establishes the
    invariant — so no stream of any length can panic -/
theorem C07_step_bounds (h : Half) (x : UInt8) (hi : h.Inv 40) :
    ∃ h' y, encStep Gen.vanillaEncMod h x = .ok (h', y) ∧ h'.Inv 40 ∧
    ∃ h'' z, decStep Gen.vanillaDecMod h x = .ok (h'', z) ∧ h''.Inv 40 :=
  encStep_decStep_ok 40 h x hi

/-- **recurrence**: with a 40-byte session key the encrypter turns x_0, x_1, … into
    c_n = (x_n xor key[n mod 40]) + c_(n-1), c_(-1) = 0 — the Spec — for streams of every length;
    it ends at position `length mod 40` remembering the last ciphertext byte -/
theorem C07_recurrence (C : Crypto) (K xs : Bytes) (hK : K.length = 40) :
    ∃ h', (Half.newEnc C .vanilla K).encrypt .vanilla xs = .ok (h', Spec.vanillaStream K xs) ∧
      h'.key = K ∧ h'.index = xs.length % 40 ∧ h'.prev = (Spec.vanillaStream K xs).getLastD 0 :=
  Half.recurrence C .vanilla K xs hK

/-- **chunking**: however the bytes are split over calls — empty calls and calls longer than the
    key included — the result is that of one call on the concatenation (both directions, any state) -/
theorem C07_chunking (h : Half) (chunks : List Bytes) :
    runChunks (Half.encrypt .vanilla) h chunks = Half.encrypt .vanilla h chunks.flatten ∧
    runChunks (Half.decrypt .vanilla) h chunks = Half.decrypt .vanilla h chunks.flatten :=
  ⟨runChunks_flatten _ h chunks, runChunks_flatten _ h chunks⟩

/-- zero-length calls change nothing -/
theorem C07_empty_call (h : Half) :
    Half.encrypt .vanilla h [] = .ok (h, []) ∧ Half.decrypt .vanilla h [] = .ok (h, []) := ⟨rfl, rfl⟩

/-- **exact inverse, one step, every state**: for each of the 40·256 pairs of position and previous byte,
    any key of at least 40 bytes, and each of the 256 input bytes, a decrypter in the same state maps the encrypter's output byte back to the input
    byte, and both end in the same state (algebra on bytes, not enumeration) -/
theorem C07_inverse_step (e d : Half) (x : UInt8) (hi : e.Inv 40)
    (hk : d.key = e.key) (hx : d.index = e.index) (hp : d.prev = e.prev) :
    ∃ e' d' c, encStep Gen.vanillaEncMod e x = .ok (e', c) ∧ decStep Gen.vanillaDecMod d c = .ok (d', x) ∧
      e'.Inv 40 ∧ d'.key = e'.key ∧ d'.index = e'.index ∧ d'.prev = e'.prev :=
  inverse_step 40 e d x hi hk hx hp

/-- **round trip, indefinitely**: for every 40-byte key, every stream, every partition of the
    plaintext into calls on the sender and every (independent) partition of the ciphertext into calls
    on the receiver, the receiver recovers the sender's bytes exactly and the two halves end in equal
    states (same key, position, previous byte) — so the next header round-trips as well -/
theorem C07_roundtrip (C : Crypto) (K : Bytes) (hK : K.length = 40) (sendChunks recvChunks : List Bytes)
    (cipher : Bytes) (e' : Half)
    (hsend : runChunks (Half.encrypt .vanilla) (Half.newEnc C .vanilla K) sendChunks = .ok (e', cipher))
    (hpart : recvChunks.flatten = cipher) :
    ∃ d', runChunks (Half.decrypt .vanilla) (Half.newDec C .vanilla K) recvChunks = .ok (d', sendChunks.flatten) ∧
      d'.key = e'.key ∧ d'.index = e'.index ∧ d'.prev = e'.prev :=
  Half.roundtrip_fresh C .vanilla K sendChunks recvChunks cipher e' hsend hpart

/-- **round trip from any pair of equal states** (the induction step "equal before ⇒ recovered and equal
    after", usable at any point of a connection, with no reference to how the halves were made): for
    every encrypter half `e0` and decrypter half `d0` holding the same key, position and previous byte,
    with the invariant (`key.length = 40`, `index < 40`), every stream and every partition
    of it into calls on the sender: the sender does not panic and emits the recurrence from its current
    position; for every (independent) partition of that ciphertext into calls on the receiver, the
    receiver recovers the sender's bytes exactly, and the two halves end equal again with the
    invariant kept — so the theorem applies again to whatever is sent next -/
theorem C07_roundtrip_from_equal_states (e0 d0 : Half) (hlen : e0.key.length = 40) (hidx : e0.index < 40)
    (hk : d0.key = e0.key) (hx : d0.index = e0.index) (hp : d0.prev = e0.prev)
    (sendChunks : List Bytes) :
    ∃ e', runChunks (Half.encrypt .vanilla) e0 sendChunks =
        .ok (e', Spec.recEnc e0.key e0.index e0.prev sendChunks.flatten) ∧
      e'.key = e0.key ∧ e'.key.length = 40 ∧ e'.index < 40 ∧
      ∀ recvChunks : List Bytes,
        recvChunks.flatten = Spec.recEnc e0.key e0.index e0.prev sendChunks.flatten →
        ∃ d', runChunks (Half.decrypt .vanilla) d0 recvChunks = .ok (d', sendChunks.flatten) ∧
          d'.key = e'.key ∧ d'.index = e'.index ∧ d'.prev = e'.prev ∧ d' = e' :=
  Half.roundtrip_from_equal_states .vanilla e0 d0 hlen hidx hk hx hp sendChunks

/-- the same in the form of `C07_roundtrip` (the sender's result as a hypothesis) -/
theorem C07_roundtrip_from_equal_states' (e0 d0 : Half) (hlen : e0.key.length = 40) (hidx : e0.index < 40)
    (hk : d0.key = e0.key) (hx : d0.index = e0.index) (hp : d0.prev = e0.prev)
    (sendChunks recvChunks : List Bytes) (cipher : Bytes) (e' : Half)
    (hsend : runChunks (Half.encrypt .vanilla) e0 sendChunks = .ok (e', cipher))
    (hpart : recvChunks.flatten = cipher) :
    ∃ d', runChunks (Half.decrypt .vanilla) d0 recvChunks = .ok (d', sendChunks.flatten) ∧
      d'.key = e'.key ∧ d'.index = e'.index ∧ d'.prev = e'.prev ∧
      e'.key.length = 40 ∧ e'.index < 40 :=
  Half.roundtrip_from_equal_states' .vanilla e0 d0 hlen hidx hk hx hp sendChunks recvChunks cipher e' hsend hpart

/-- non-vacuity of `C07_roundtrip_from_equal_states`: a mid-connection state (position 37, previous byte
    0x5a) three bytes before the key wraps around; five bytes sent in three calls (one empty) -/
example :
    let K := (List.range 40).map UInt8.ofNat
    ∃ e', runChunks (Half.encrypt .vanilla) ⟨K, 37, 0x5a⟩ [[1, 2], [], [3, 4, 5]] =
        .ok (e', Spec.recEnc K 37 0x5a [1, 2, 3, 4, 5]) ∧ e'.key.length = 40 ∧ e'.index < 40 :=
  have ⟨e', h, _, hl, hi, _⟩ := C07_roundtrip_from_equal_states ⟨(List.range 40).map UInt8.ofNat, 37, 0x5a⟩
    ⟨(List.range 40).map UInt8.ofNat, 37, 0x5a⟩ (by decide) (by decide) rfl rfl rfl [[1, 2], [], [3, 4, 5]]
  ⟨e', h, hl, hi⟩
/-- … and by evaluation: the position has wrapped to 2, the receiver (calls of 4 and 1 bytes) is in the same state -/
example :
    (let K := (List.range 40).map UInt8.ofNat
     match runChunks (Half.encrypt .vanilla) ⟨K, 37, 0x5a⟩ [[1, 2], [], [3, 4, 5]] with
     | .panic _ => false
     | .ok (e', c) =>
       match runChunks (Half.decrypt .vanilla) ⟨K, 37, 0x5a⟩ [c.take 4, c.drop 4] with
       | .panic _ => false
       | .ok (d', p) => d' == e' && p == [1, 2, 3, 4, 5] && e'.index == 2 && c != p) = true := by
  decide

/-! non-vacuity: the hypotheses are met by concrete, non-trivial data -/
example : ((List.range 40).map UInt8.ofNat).length = 40 := by decide
example :
    let K := (List.range 40).map UInt8.ofNat
    runChunks (Half.encrypt .vanilla) (Half.newEnc Crypto.real .vanilla K) [[1, 2], [], [3, 4, 5]]
      = .ok (⟨K, 5, 0x0d⟩, [0x01, 0x04, 0x05, 0x0c, 0x0d]) := by decide

end WowSrp

#print axioms WowSrp.C07_roundtrip_from_equal_states
#print axioms WowSrp.C07_roundtrip_from_equal_states'
