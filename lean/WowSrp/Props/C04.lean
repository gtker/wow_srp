/-
C04 — Public keys are refused exactly when they are congruent to zero modulo N.
Property theorems only; helper lemmas live in Lemmas/Srp.lean (the equations of the model functions),
Lemmas/Modulus.lean and Lemmas/PowMod.lean (the model's square-and-multiply `powMod` is `b ^ e % m`,
`powMod_spec`), so that everything below is stated with the mathematical `g ^ e % N`. Core Lean only.

`nBig = ofLE Gen.largeSafePrimeLE` is the built-in modulus N, `gBig = 7`, `kBig = 3`.
-/
import WowSrp.Lemmas.Srp
namespace WowSrp

/-- tie to the source: the modulus is a 32-byte array whose value has its top bit set — so `2 N`
    does not fit in 32 bytes — keys are 32 bytes, `g = 7`, `k = 3` -/
theorem C04_constants :
    Gen.largeSafePrimeLE.length = 32 ∧ Gen.publicKeyLength = 32 ∧
    Gen.largeSafePrimeBE.reverse = Gen.largeSafePrimeLE ∧
    0 < nBig ∧ nBig < 2 ^ 256 ∧ 2 ^ 256 ≤ 2 * nBig ∧ gBig = 7 ∧ kBig = 3 :=
  ⟨largeSafePrimeLE_length, by decide, by rw [largeSafePrimeBE_eq_reverse, List.reverse_reverse],
   nBig_pos, nBig_lt_256_pow_32, two_nBig_ge, gBig_val, kBig_val⟩

/-- **acceptance**: a 32-byte array is accepted iff its value is neither 0 nor N -/
theorem C04_accept_iff (k : Bytes) (hk : k.length = 32) :
    PublicKey.fromLE k = .ok k ↔ (ofLE k ≠ 0 ∧ ofLE k ≠ nBig) := by
  rw [PublicKey.fromLE_eq32 k hk]
  split
  · simp [*]
  · split <;> simp [*]

/-- an accepted key is handed back unchanged (what `as_le_bytes` returns is the input), any length -/
theorem C04_accept_unchanged (k k' : Bytes) (h : PublicKey.fromLE k = .ok k') : k' = k := by
  unfold PublicKey.fromLE at h
  split at h
  · cases h; rfl
  · cases h

/-- **error kind "zero"**: reported iff the value is 0 (arrays of every length) -/
theorem C04_err_zero (k : Bytes) : PublicKey.fromLE k = .error .isZero ↔ ofLE k = 0 := by
  rw [PublicKey.fromLE_eq]
  split
  · simp [*]
  · rename_i h0; split <;> simp [h0]

/-- **error kind "multiple of N"**: reported iff the value is N itself -/
theorem C04_err_mod (k : Bytes) (hk : k.length = 32) :
    PublicKey.fromLE k = .error .modIsZero ↔ ofLE k = nBig := by
  rw [PublicKey.fromLE_eq32 k hk]
  split
  · simp [*, Nat.ne_of_lt nBig_pos]
  · split <;> simp [*]

/-- **only two**: among the values of 32-byte arrays the multiples of N are 0 and N (`2 N ≥ 2^256`) -/
theorem C04_only_two (k : Bytes) (hk : k.length = 32) :
    ofLE k % nBig = 0 ↔ ofLE k = 0 ∨ ofLE k = nBig :=
  only_two_multiples_bytes k (Nat.le_of_eq hk)

/-- **refused exactly when ≡ 0 mod N** -/
theorem C04_refused_iff_mod_zero (k : Bytes) (hk : k.length = 32) :
    (∃ e, PublicKey.fromLE k = .error e) ↔ ofLE k % nBig = 0 := by
  rw [C04_only_two k hk, PublicKey.fromLE_eq32 k hk]
  split
  · simp [*]
  · split <;> simp [*]

/-- **exactly two arrays**: of the 2^256 32-byte arrays the refused ones are the all-zero array and
    the array of N, byte for byte — nothing else (in particular no other array made of their bytes) -/
theorem C04_exactly_two (k : Bytes) (hk : k.length = 32) :
    (∃ e, PublicKey.fromLE k = .error e) ↔ k = List.replicate 32 0 ∨ k = Gen.largeSafePrimeLE := by
  have hz : ofLE k = 0 ↔ k = List.replicate 32 0 :=
    ⟨fun h => ofLE_inj _ _ (by simp [hk]) (by rw [h, ofLE_replicate_zero]),
     fun h => by rw [h, ofLE_replicate_zero]⟩
  rw [PublicKey.fromLE_eq, ← hz]
  split
  · simp [*]
  · rename_i h0; split <;> simp [h0, *]

/-- **the server's own key**: with `B = (k·v + g^b mod N) mod N` (every stored verifier `v`, every
    drawn private key `b`, both big-integer back ends): `into_proof` panics — at the
    "generated public key was invalid" site and nowhere else — iff `B = 0`; otherwise it yields a proof
    whose public key is the 32-byte encoding of `B`, the other fields being carried over -/
theorem C04_server_self (be : Backend) (s : SrpVerifier) (b : Bytes) :
    ((∃ p, s.intoProof be b = .panic p) ↔
      (kBig * ofLE s.passwordVerifier + gBig ^ ofLE b % nBig) % nBig = 0) ∧
    ((kBig * ofLE s.passwordVerifier + gBig ^ ofLE b % nBig) % nBig = 0 →
      s.intoProof be b = .panic "server.rs:296 The generated public key was invalid") ∧
    ((kBig * ofLE s.passwordVerifier + gBig ^ ofLE b % nBig) % nBig ≠ 0 →
      ∃ key, s.intoProof be b = .ok ⟨s.username, key, s.salt, b, s.passwordVerifier⟩ ∧
        key.length = 32 ∧
        ofLE key = (kBig * ofLE s.passwordVerifier + gBig ^ ofLE b % nBig) % nBig) := by
  have h := SrpVerifier.intoProof_spec be s b
  have hlt := Spec.B_lt (ofLE s.passwordVerifier) (ofLE b)
  rw [Spec.B_eq] at h hlt
  exact ⟨h ▸ Out.ite_panic_iff, fun h0 => h.trans (if_pos h0), fun hne =>
    ⟨_, h.trans (if_neg hne), leN_length _ _, ofLE_leN_of_lt_nBig hlt⟩⟩

/-- the same rule, seen at `calculate_server_public_key`: the refusal is always of kind "zero"
    (`B` is already reduced, so it can never be N), and `B = 0` and `B ≡ 0 mod N` coincide -/
theorem C04_server_key (be : Backend) (v b : Bytes) :
    ((kBig * ofLE v + gBig ^ ofLE b % nBig) % nBig = 0 →
      calculateServerPublicKey be v b = .ok (.error .isZero)) ∧
    ((kBig * ofLE v + gBig ^ ofLE b % nBig) % nBig ≠ 0 →
      ∃ key, calculateServerPublicKey be v b = .ok (.ok key) ∧ key.length = 32 ∧
        ofLE key = (kBig * ofLE v + gBig ^ ofLE b % nBig) % nBig) := by
  have h := calculateServerPublicKey_spec be v b
  have hlt := Spec.B_lt (ofLE v) (ofLE b)
  rw [Spec.B_eq] at h hlt
  exact ⟨fun h0 => by rw [h, if_pos h0], fun hne =>
    ⟨_, by rw [h, if_neg hne], leN_length _ _, ofLE_leN_of_lt_nBig hlt⟩⟩

/-- **the client's own key** relative to *whatever* modulus `N'` (32 bytes, non-zero) and generator
    `g` the server announced, for every drawn private key `a`, both back ends:
    `calculate_client_public_key` refuses iff `A = g^a mod N'` is 0, and otherwise returns the 32-byte
    encoding of `A`. `A` is already reduced modulo `N'`, so "`A = 0`" and "`A ≡ 0 mod N'`" coincide:
    the refusal is always of kind "zero" and the "multiple of N" kind is unreachable here. -/
theorem C04_client_key (be : Backend) (a : Bytes) (g : Nat) (nLE : Bytes)
    (hn : nLE.length = 32) (hpos : 0 < ofLE nLE) :
    (g ^ ofLE a % ofLE nLE = 0 → calculateClientPublicKey be a g nLE = .ok (.error .isZero)) ∧
    (g ^ ofLE a % ofLE nLE ≠ 0 →
      ∃ key, calculateClientPublicKey be a g nLE = .ok (.ok key) ∧ key.length = 32 ∧
        ofLE key = g ^ ofLE a % ofLE nLE) ∧
    ((∃ e, calculateClientPublicKey be a g nLE = .ok (.error e)) ↔ g ^ ofLE a % ofLE nLE = 0) := by
  have h32 := Nat.le_of_lt (ofLE_lt_of_length_le (Nat.le_of_eq hn))
  have h : _ = Out.ok (if g ^ ofLE a % ofLE nLE = 0 then _ else _) :=
    calculateClientPublicKey_spec be a g nLE hpos h32
  by_cases h0 : g ^ ofLE a % ofLE nLE = 0
  · rw [if_pos h0] at h
    exact ⟨fun _ => h, fun hne => absurd h0 hne, fun _ => h0, fun _ => ⟨_, h⟩⟩
  · rw [if_neg h0] at h
    exact ⟨fun h' => absurd h' h0, fun _ => ⟨_, h, leN_length _ _, ofLE_leN_A g _ nLE hpos h32⟩,
      fun ⟨_, he⟩ => (by rw [h] at he; cases he), fun h' => absurd h' h0⟩

/-- an announced modulus of zero makes the client panic inside the big-integer library
    (`modpow` with a zero modulus), before any key check -/
theorem C04_client_zero_modulus (be : Backend) (a : Bytes) (g : Nat) (nLE : Bytes)
    (h : ofLE nLE = 0) : ∃ p, calculateClientPublicKey be a g nLE = .panic p := by
  obtain ⟨s, hs⟩ := (Backend.modpow_panic_iff be g (ofLE a) (ofLE nLE)).mpr h
  exact ⟨s, by unfold calculateClientPublicKey; rw [hs]; rfl⟩

/-- **the client's own key, through the API**: for every announced 32-byte non-zero modulus `N'` and
    generator `g`, every account, server key `B`, salt and drawn private key `a`, both back ends and
    any hash with the right output length: `SrpClientChallenge::new` panics iff
    `g^a mod N' = 0`, and then at the "Invalid public key generated for client" site; in every other
    case it returns a challenge whose public key is the 32-byte encoding of `g^a mod N'`
    (no other step of the constructor can panic). -/
theorem C04_client_self (C : Crypto) (hC : C.WF) (be : Backend) (u p : NStr) (g : Nat)
    (nLE B salt a : Bytes) (hn : nLE.length = 32) (hpos : 0 < ofLE nLE) :
    ((∃ site, SrpClientChallenge.new C be u p g nLE B salt a = .panic site) ↔
      g ^ ofLE a % ofLE nLE = 0) ∧
    (g ^ ofLE a % ofLE nLE = 0 →
      SrpClientChallenge.new C be u p g nLE B salt a =
        .panic "client.rs:190 Invalid public key generated for client") ∧
    (g ^ ofLE a % ofLE nLE ≠ 0 →
      ∃ c, SrpClientChallenge.new C be u p g nLE B salt a = .ok c ∧ c.username = u ∧
        c.clientPublicKey.length = 32 ∧ ofLE c.clientPublicKey = g ^ ofLE a % ofLE nLE) := by
  have h32 := Nat.le_of_lt (ofLE_lt_of_length_le (Nat.le_of_eq hn))
  have h : _ = if g ^ ofLE a % ofLE nLE = 0 then _ else _ :=
    SrpClientChallenge.new_eq C hC be u p g nLE B salt a hpos h32
  exact ⟨h ▸ Out.ite_panic_iff, fun h0 => h.trans (if_pos h0), fun hne =>
    ⟨_, h.trans (if_neg hne), rfl, leN_length _ _, ofLE_leN_A g _ nLE hpos h32⟩⟩

/-- `le32(183)` — first byte equal to N's first byte, the rest zero — is a valid key and accepted
    (the byte-wise shortcut of the original code refused it) -/
example : PublicKey.fromLE (0xb7 :: List.replicate 31 0) = .ok (0xb7 :: List.replicate 31 0) :=
  (C04_accept_iff _ (by decide)).mpr ⟨by decide, by decide +kernel⟩

/-- `[0, 0x9b, 0, …]` (0x9b00) is accepted -/
example : PublicKey.fromLE (0 :: 0x9b :: List.replicate 30 0) = .ok (0 :: 0x9b :: List.replicate 30 0) :=
  (C04_accept_iff _ (by decide)).mpr ⟨by decide, by decide +kernel⟩

example : PublicKey.fromLE (List.replicate 32 0) = .error .isZero := (C04_err_zero _).mpr (by decide)

example : PublicKey.fromLE Gen.largeSafePrimeLE = .error .modIsZero :=
  (C04_err_mod _ (by decide)).mpr rfl

/-- N + 1 is accepted -/
example : PublicKey.fromLE (0xb8 :: Gen.largeSafePrimeLE.tail) = .ok (0xb8 :: Gen.largeSafePrimeLE.tail) :=
  (C04_accept_iff _ (by decide)).mpr ⟨by decide +kernel, by decide +kernel⟩

/-- N − 1 is accepted -/
example : PublicKey.fromLE (0xb6 :: Gen.largeSafePrimeLE.tail) = .ok (0xb6 :: Gen.largeSafePrimeLE.tail) :=
  (C04_accept_iff _ (by decide)).mpr ⟨by decide +kernel, by decide +kernel⟩

/-- the panicking case of `C04_server_self` is inhabited: `v = (2N − 7)/3`, `b = 1` give `B = 0` -/
example : (kBig * ofLE [0xcd, 0x67, 0xd4, 0xc6, 0x04, 0x57, 0x28, 0x72, 0x0a, 0x3f, 0x2a, 0xd5, 0x09,
    0x21, 0x01, 0xb0, 0x8c, 0x35, 0x04, 0xc6, 0x5c, 0x92, 0x73, 0x7e, 0x92, 0x37, 0x96, 0x06, 0x3f,
    0x98, 0x87, 0x5b] + gBig ^ ofLE [1] % nBig) % nBig = 0 := by decide +kernel

/-- … and so is the ordinary case: `v = 1`, `b = 1` give `B = 10` -/
example : (kBig * ofLE [1] + gBig ^ ofLE [1] % nBig) % nBig = 10 := by decide +kernel

/-- the hypotheses of `C04_client_self` are satisfiable with a refusing instance (announced `N' = 49`,
    `g = 7`, `a = 2`: `7^2 mod 49 = 0`) and an accepting one (`a = 1`) -/
example : (49 :: List.replicate 31 (0 : UInt8)).length = 32 ∧ 0 < ofLE (49 :: List.replicate 31 0) ∧
    7 ^ ofLE [2] % ofLE (49 :: List.replicate 31 0) = 0 ∧
    7 ^ ofLE [1] % ofLE (49 :: List.replicate 31 0) = 7 := by decide

end WowSrp
