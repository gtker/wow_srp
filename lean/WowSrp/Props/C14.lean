/-
C14 — peer-controlled bytes can never crash the server or the client.
Every Rust panic site is an explicit `Out.panic site` in the model; "never panics" = "the result is
`.ok _`" (functions without `Out` in their type cannot panic at all). All theorems are for an
arbitrary `C : Crypto` (with `C.WF`, the output lengths, where hash outputs are indexed) and for both
big-integer back ends. Helper lemmas: `Lemmas/Srp.lean`, `Lemmas/NoPanicHeader.lean`.
-/
import WowSrp.Model.World
import WowSrp.Lemmas.SrpGroup
import WowSrp.Lemmas.NoPanicHeader
import WowSrp.Lemmas.Eval
namespace WowSrp

/-- **Registration** (`SrpVerifier::from_username_and_password`): never panics, for every (normalised)
    user name, password and salt draw; the verifier is a 32-byte array. -/
theorem C14_server_register (C : Crypto) (be : Backend) (u p : NStr) (salt : Bytes) :
    ∃ v, SrpVerifier.fromUsernameAndPassword C be u p salt = .ok v ∧ v.passwordVerifier.length = 32 :=
  ⟨_, SrpVerifier.fromUsernameAndPassword_spec C be u p salt, leN_length _ _⟩

/-- **`SrpProof::into_server` never panics**: for every account record `p` — *no* condition on the
    stored verifier (the property's "not a multiple of N" is not needed: a zero secret does not index past
    the end, `C14_interleaved`), not even on the widths of its fields —, every client public key `A`
    (whether or not `PublicKey::from_le_bytes` would accept it), every proof `M1` of any length and every
    challenge draw, the answer is `Ok` or `Err`. On `Ok` the session key has 40 bytes. -/
theorem C14_server_login (C : Crypto) (hC : C.WF) (be : Backend) (p : SrpProof) (A M1 challenge : Bytes) :
    ∃ r, p.intoServer C be A M1 challenge = .ok r ∧
      ∀ srv M2, r = .ok (srv, M2) →
        srv.sessionKey.length = 40 ∧ srv.username = p.username ∧ srv.reconnectChallengeData = challenge := by
  rw [SrpProof.intoServer_eq, calculateSessionKey_eq C hC, Out.bind_ok]
  refine ⟨_, rfl, fun srv M2 h => ?_⟩
  split at h
  · cases h; exact ⟨Spec.interleave_length C hC _, rfl, rfl⟩
  · cases h

/-- the statement in the property's own terms (32-byte fields, 32-byte `A`, 20-byte `M1`) -/
theorem C14_server_login_api (C : Crypto) (hC : C.WF) (be : Backend) (p : SrpProof) (A M1 challenge : Bytes)
    (_ : p.passwordVerifier.length = 32) (_ : p.salt.length = 32) (_ : p.serverPrivateKey.length = 32)
    (_ : p.serverPublicKey.length = 32) (_ : A.length = 32) (_ : M1.length = 20) (_ : challenge.length = 16) :
    ∃ r, p.intoServer C be A M1 challenge = .ok r :=
  let ⟨r, h, _⟩ := C14_server_login C hC be p A M1 challenge
  ⟨r, h⟩

/-- the server's secret for *every* input is a 32-byte array (so `as_equal_slice` sees an even length) -/
theorem C14_server_secret (be : Backend) (A v u b : Bytes) :
    ∃ S, calculateS be A v u b = .ok S ∧ S.length = 32 :=
  ⟨_, calculateS_spec be A v u b, leN_length _ _⟩

/-- `calculate_interleaved` is total on 32-byte secrets, the all-zero secret and secrets with any number of
    leading zero bytes included. (Regression: before the crate's fix 5fed70f, `as_equal_slice` scanned past the
    end of an all-zero secret; the zero-secret examples and `C14_client_zero_secret` are the tests for it.) -/
theorem C14_interleaved (C : Crypto) (hC : C.WF) (S : Bytes) (hS : S.length = 32) :
    ∃ K, calculateInterleaved C S = .ok K ∧ K.length = 40 :=
  ⟨_, calculateInterleaved_spec C hC S (by omega) (by omega), Spec.interleave_length C hC S⟩

/-- non-vacuity: the all-zero secret -/
example (C : Crypto) (hC : C.WF) : ∃ K, calculateInterleaved C (List.replicate 32 0) = .ok K ∧ K.length = 40 :=
  C14_interleaved C hC _ (by simp)
example : asEqualSlice (List.replicate 32 0) = .ok [] := by decide
/-- a verifier that *is* a multiple of N (zero) and a rejected `A` (zero) are answered in an orderly way too -/
example (C : Crypto) (hC : C.WF) (be : Backend) (u : NStr) (M1 ch : Bytes) :
    ∃ r, (⟨u, List.replicate 32 0, List.replicate 32 0, List.replicate 32 0, List.replicate 32 0⟩ : SrpProof).intoServer
      C be (List.replicate 32 0) M1 ch = .ok r :=
  let ⟨r, h, _⟩ := C14_server_login C hC be _ _ M1 ch
  ⟨r, h⟩

/-- **`SrpVerifier::into_proof` panics only in the documented case** — the self-generated public key
    `B = (k·v + g^b mod N) mod N` is zero — and otherwise returns a proof object whose 32-byte `B` passes
    `PublicKey::from_le_bytes`. Holds for every stored verifier and every private-key draw (no width or
    non-zero condition on either). -/
theorem C14_into_proof (be : Backend) (ver : SrpVerifier) (b : Bytes) :
    ((kBig * ofLE ver.passwordVerifier + gBig ^ ofLE b % nBig) % nBig ≠ 0 →
      ∃ p, ver.intoProof be b = .ok p ∧ p.serverPublicKey.length = 32 ∧
        PublicKey.fromLE p.serverPublicKey = .ok p.serverPublicKey ∧
        p.passwordVerifier = ver.passwordVerifier ∧ p.serverPrivateKey = b ∧ p.salt = ver.salt) ∧
    ((kBig * ofLE ver.passwordVerifier + gBig ^ ofLE b % nBig) % nBig = 0 →
      ver.intoProof be b = .panic "server.rs:296 The generated public key was invalid") := by
  have h := SrpVerifier.intoProof_spec be ver b
  have hlt := Spec.B_lt (ofLE ver.passwordVerifier) (ofLE b)
  rw [Spec.B_eq] at h hlt
  exact ⟨fun hne => ⟨_, by rw [h, if_neg hne], leN_length _ _, PublicKey.fromLE_leN_ok _ hne hlt, rfl, rfl, rfl⟩,
    fun h0 => by rw [h, if_pos h0]⟩

/-- in particular: the only panic `into_proof` can ever produce is the documented one -/
theorem C14_into_proof_only_documented (be : Backend) (ver : SrpVerifier) (b : Bytes) (s : String)
    (h : ver.intoProof be b = .panic s) : s = "server.rs:296 The generated public key was invalid" := by
  rw [SrpVerifier.intoProof_spec] at h
  split at h
  · cases h; rfl
  · cases h

/-- the non-panicking variant `with_specific_private_key` reports the same case as `Err` -/
theorem C14_with_specific_private_key (be : Backend) (ver : SrpVerifier) (b : Bytes) :
    ∃ r, ver.withSpecificPrivateKey be b = .ok r :=
  ⟨_, SrpVerifier.withSpecificPrivateKey_spec be ver b⟩

/-- non-vacuity, first branch: the honest situation (`v = 7`, `b = 1`: `B = 28`) -/
example : (kBig * ofLE [7] + gBig ^ ofLE [1] % nBig) % nBig ≠ 0 := by decide +kernel
/-- non-vacuity, second branch: the documented panic is reachable — verifier `v = -1/3 mod N` with the
    all-zero draw `b = 0` gives `B = 3v + 1 ≡ 0` -/
example :
    (kBig * ofLE [0xcf, 0x67, 0xd4, 0xc6, 0x04, 0x57, 0x28, 0x72, 0x0a, 0x3f, 0x2a, 0xd5, 0x09, 0x21, 0x01, 0xb0,
      0x8c, 0x35, 0x04, 0xc6, 0x5c, 0x92, 0x73, 0x7e, 0x92, 0x37, 0x96, 0x06, 0x3f, 0x98, 0x87, 0x5b]
      + gBig ^ ofLE (List.replicate 32 0) % nBig) % nBig = 0 := by decide +kernel

/-- **`SrpServer::verify_reconnection_attempt` is a total function**: for every session, every client
    challenge data, proof and challenge redraw it returns a Boolean and the session with only the
    challenge replaced — there is no panic site on this path at all (its type has no `Out`). -/
theorem C14_server_reconnect (C : Crypto) (s : SrpServer) (cd proof draw : Bytes) :
    ∃ (ok : Bool) (s' : SrpServer), s.verifyReconnectionAttempt C cd proof draw = (ok, s') ∧
      s'.username = s.username ∧ s'.sessionKey = s.sessionKey ∧ s'.reconnectChallengeData = draw ∧
      (ok = true ↔ calculateReconnectProof C s.username.asRef cd s.reconnectChallengeData s.sessionKey = proof) := by
  refine ⟨_, _, rfl, rfl, rfl, rfl, ?_⟩
  simp

/-- **`SrpClientChallenge::new` with the built-in group never panics**: for every server public key `B`
    (any value: 0, N, ≥ N, `k·v mod N` which drives the secret to 0, …), every salt, every private-key
    draw `a` and all credentials. (The documented panic "own public key invalid" cannot happen:
    `7^a mod N ≠ 0` because N is prime.) No width conditions are needed. -/
theorem C14_client (C : Crypto) (hC : C.WF) (be : Backend) (u p : NStr) (B salt a : Bytes) :
    ∃ c, SrpClientChallenge.new C be u p gBig Gen.largeSafePrimeLE B salt a = .ok c ∧
      c.sessionKey.length = 40 ∧ c.clientPublicKey.length = 32 ∧ c.username = u :=
  ⟨_, by rw [SrpClientChallenge.new_eq C hC be u p gBig _ B salt a nBig_pos (Nat.le_of_lt nBig_lt_256_pow_32),
        if_neg (show Spec.A gBig (ofLE a) (ofLE Gen.largeSafePrimeLE) ≠ 0 from pow_mod_prime_ne_zero nBig gBig _ nBig_prime gBig_not_dvd)],
    Spec.interleave_length C hC _, leN_length _ _, rfl⟩

/-- **`verify_server_proof` is total** for every `M2`: `Err` carrying both proofs, or the client object -/
theorem C14_client_verify (C : Crypto) (c : SrpClientChallenge) (M2 : Bytes) :
    (∃ mine, c.verifyServerProof C M2 = .error ⟨mine, M2⟩) ∨
    c.verifyServerProof C M2 = .ok ⟨c.username, c.sessionKey⟩ := by
  unfold SrpClientChallenge.verifyServerProof
  simp only
  split
  · exact .inl ⟨_, rfl⟩
  · exact .inr rfl

/-- **`calculate_reconnect_values` is total** for every server challenge -/
theorem C14_client_reconnect (C : Crypto) (c : SrpClient) (serverChallenge cd : Bytes) :
    ∃ proof, c.calculateReconnectValues C serverChallenge cd = (cd, proof) := ⟨_, rfl⟩

/-- **The zero secret on the client.** A hostile server that knows the verifier `v = g^x mod N` sends
    `B = k·v mod N`. The client's secret is then `0^(a+ux) = 0`, a 32-byte array of zeros (for every
    non-zero private key `a`) — and the client still answers in an orderly way. -/
theorem C14_client_zero_secret (C : Crypto) (hC : C.WF) (be : Backend) (u p : NStr) (salt a : Bytes)
    (ha : 0 < ofLE a) :
    let x := calculateX C u.asRef p.asRef salt
    let v := modpowVal gBig (ofLE x) nBig
    let B := leN 32 (kBig * v % nBig)
    (∀ uu, calculateClientS be B x a uu gBig Gen.largeSafePrimeLE = .ok (List.replicate 32 0)) ∧
    ∃ c, SrpClientChallenge.new C be u p gBig Gen.largeSafePrimeLE B salt a = .ok c := by
  intro x v B
  refine ⟨?_, let ⟨c, hc, _⟩ := C14_client C hC be u p B salt a; ⟨c, hc⟩⟩
  intro uu
  rw [calculateClientS_spec be B x a uu gBig Gen.largeSafePrimeLE nBig_pos (Nat.le_of_lt nBig_lt_256_pow_32),
    Spec.Sclient_eq_modpowVal _ _ _ _ _ (ofLE Gen.largeSafePrimeLE) nBig_pos, ← modpowVal_natCast]
  have hB : ofLE B = kBig * v % nBig := ofLE_leN_of_lt_nBig (Nat.mod_lt _ nBig_pos)
  have hdvd : ((ofLE Gen.largeSafePrimeLE : Nat) : Int) ∣
      (ofLE B : Int) - 3 * (modpowVal gBig (ofLE x) (ofLE Gen.largeSafePrimeLE) : Int) := by
    show ((nBig : Nat) : Int) ∣ (ofLE B : Int) - (kBig : Int) * (v : Int)
    rw [hB]
    push_cast
    exact (Int.mod_modEq _ _).symm.dvd
  rw [modpowVal_eq_zero_of_dvd (ofLE Gen.largeSafePrimeLE) _ _ nBig_pos (by omega) hdvd, leN_zero]

def C14_ex_user : NStr := ⟨0x41 :: List.replicate 15 0, 1⟩
def C14_ex_salt : Bytes := List.replicate 32 0xAB
def C14_ex_a : Bytes := 5 :: List.replicate 31 0
def C14_ex_B : Bytes :=
  leN 32 (kBig * modpowVal gBig (ofLE (calculateX Crypto.real C14_ex_user.asRef C14_ex_user.asRef C14_ex_salt)) nBig % nBig)

/-- the same, fully concrete and evaluated by the kernel with the real SHA-1: user "A", password "A",
    salt `AB…AB`, private key 5, hostile `B = 3·v mod N`. Both back ends: secret = 32 zero bytes, result `ok`. -/
example :
    calculateClientS .num C14_ex_B (calculateX Crypto.real C14_ex_user.asRef C14_ex_user.asRef C14_ex_salt)
      C14_ex_a [1, 2, 3] gBig Gen.largeSafePrimeLE = .ok (List.replicate 32 0) ∧
    calculateClientS .rug C14_ex_B (calculateX Crypto.real C14_ex_user.asRef C14_ex_user.asRef C14_ex_salt)
      C14_ex_a [1, 2, 3] gBig Gen.largeSafePrimeLE = .ok (List.replicate 32 0) ∧
    (SrpClientChallenge.new Crypto.real .num C14_ex_user C14_ex_user gBig Gen.largeSafePrimeLE
      C14_ex_B C14_ex_salt C14_ex_a).isOk = true ∧
    (SrpClientChallenge.new Crypto.real .rug C14_ex_user C14_ex_user gBig Gen.largeSafePrimeLE
      C14_ex_B C14_ex_salt C14_ex_a).isOk = true := by
  unfold C14_ex_B
  rw [Crypto.real_eq_fast]
  decide +kernel

/-! ### announced group (extra strength: the property fixes the built-in group) -/

/-- for every announced 32-byte modulus `N' > 0` and every generator the client panics *exactly* in the
    documented case — its own public key `g^a mod N'` is zero — and never because of `B` or the salt -/
theorem C14_client_announced (C : Crypto) (hC : C.WF) (be : Backend) (u p : NStr) (g : Nat)
    (nLE B salt a : Bytes) (hlen : nLE.length = 32) (hN : 0 < ofLE nLE) :
    (g ^ ofLE a % ofLE nLE ≠ 0 →
      ∃ c, SrpClientChallenge.new C be u p g nLE B salt a = .ok c ∧ c.sessionKey.length = 40) ∧
    (g ^ ofLE a % ofLE nLE = 0 →
      SrpClientChallenge.new C be u p g nLE B salt a
        = .panic "client.rs:190 Invalid public key generated for client") := by
  have h : _ = if g ^ ofLE a % ofLE nLE = 0 then _ else _ := SrpClientChallenge.new_eq C hC be u p g nLE B
    salt a hN (Nat.le_of_lt (ofLE_lt_of_length_le (Nat.le_of_eq hlen)))
  exact ⟨fun hA => ⟨_, by rw [h, if_neg hA], Spec.interleave_length C hC _⟩, fun hA => by rw [h, if_pos hA]⟩

/-- with the announced modulus zero the first `modpow` panics in both back ends (zero modulus) -/
theorem C14_client_announced_zero (C : Crypto) (be : Backend) (u p : NStr) (g : Nat)
    (nLE B salt a : Bytes) (hN : ofLE nLE = 0) :
    ∃ s, SrpClientChallenge.new C be u p g nLE B salt a = .panic s :=
  let ⟨s, hs⟩ := (Backend.modpow_panic_iff be g (ofLE a) (ofLE nLE)).mpr hN
  ⟨s, by unfold SrpClientChallenge.new calculateClientPublicKey; simp only [hs, Out.bind_panic]⟩

/-- non-vacuity: an even, tiny announced modulus (`N' = 22` in 32 bytes), `g = 7`, `a = 5` -/
example : (22 :: List.replicate 31 (0 : UInt8)).length = 32 ∧ 0 < ofLE (22 :: List.replicate 31 0) ∧
    7 ^ ofLE [5] % ofLE (22 :: List.replicate 31 0) ≠ 0 := by decide

/-- **Vanilla / TBC `ProofSeed::into_server_header_crypto` is total**: for every proof, client seed,
    session key and user name the answer is `Err` (carrying both proofs) or the header cipher — and that
    cipher satisfies the bounds invariant of `C14_headers` when the session key has its 40 bytes. -/
theorem C14_world_server (C : Crypto) (e : Exp) (seed : Nat) (u : NStr) (K proof : Bytes) (clientSeed : Nat) :
    (∃ sp, ProofSeed.intoServerHeaderCrypto C e seed u K proof clientSeed = .error ⟨proof, sp⟩) ∨
    (ProofSeed.intoServerHeaderCrypto C e seed u K proof clientSeed = .ok (HeaderCrypto.new C e K) ∧
      (HeaderKeyOk C e K → (HeaderCrypto.new C e K).Inv e)) := by
  unfold ProofSeed.intoServerHeaderCrypto
  simp only
  split
  · exact .inl ⟨_, rfl⟩
  · exact .inr ⟨rfl, HeaderCrypto.new_inv C e K⟩

/-- Vanilla / TBC `into_client_header_crypto` is total -/
theorem C14_world_client (C : Crypto) (e : Exp) (seed : Nat) (u : NStr) (K : Bytes) (serverSeed : Nat) :
    ∃ proof, ProofSeed.intoClientHeaderCrypto C e seed u K serverSeed = (proof, HeaderCrypto.new C e K) :=
  ⟨_, rfl⟩

/-- **Wrath `into_server_header_crypto` never panics** (for every `Crypto`, session key of any length,
    proof, seeds): RC4 keying with the HMAC output and the 1024-byte drop stay inside the 256-byte state.
    On success both halves satisfy the RC4 invariant. -/
theorem C14_world_wrath_server (C : Crypto) (seed : Nat) (u : NStr) (K proof : Bytes) (clientSeed : Nat) :
    ∃ r, ProofSeed.wrathIntoServer C seed u K proof clientSeed = .ok r ∧
      ∀ c, r = .ok c → c.decrypt.state.size = 256 ∧ c.encrypt.Inv := by
  unfold ProofSeed.wrathIntoServer
  simp only
  split
  · exact ⟨_, rfl, fun c h => by cases h⟩
  · obtain ⟨c, hc, hd, he⟩ := WServerCrypto.new_ok C K
    simp only [hc, Out.bind_ok, Out.pure_eq]
    exact ⟨_, rfl, fun c' h => by cases h; exact ⟨hd, he⟩⟩

/-- **Wrath `into_client_header_crypto` never panics** -/
theorem C14_world_wrath_client (C : Crypto) (seed : Nat) (u : NStr) (K : Bytes) (serverSeed : Nat) :
    ∃ proof c, ProofSeed.wrathIntoClient C seed u K serverSeed = .ok (proof, c) ∧
      c.decrypt.Inv ∧ c.encrypt.state.size = 256 := by
  unfold ProofSeed.wrathIntoClient
  obtain ⟨c, hc, hd, he⟩ := WClientCrypto.new_ok C K
  simp only [hc, Out.bind_ok, Out.pure_eq]
  exact ⟨_, _, rfl, hd, he⟩

/-- `Rc4::new` never panics for a key of any length (the crate only passes the 20-byte HMAC output) -/
theorem C14_rc4_new (key : Bytes) : ∃ r, Rc4.new key = .ok r ∧ r.state.size = 256 :=
  ⟨_, Rc4.new_eq key, Rc4.keyed_inv key⟩

/-! ## header bytes, Vanilla / TBC

`Half.Inv m h` (`Lemmas/Header.lean`): `0 < m ≤ 255`, `m ≤ h.key.length`, `h.index < m`.
`HeaderKeyOk C e K`: Vanilla — the session key has its 40 bytes; TBC — `C.WF` (HMAC output is 20 bytes). -/

/-- fresh halves satisfy the invariant -/
theorem C14_headers_fresh (C : Crypto) (e : Exp) (K : Bytes) (hK : HeaderKeyOk C e K) :
    (Half.newEnc C e K).Inv e.keyLen ∧ (Half.newDec C e K).Inv e.keyLen :=
  ⟨Half.newEnc_inv C e K hK, Half.newDec_inv C e K hK⟩

theorem C14_headerKeyOk_vanilla (C : Crypto) (K : Bytes) (h : K.length = 40) : HeaderKeyOk C .vanilla K := h
theorem C14_headerKeyOk_tbc (C : Crypto) (hC : C.WF) (K : Bytes) : HeaderKeyOk C .tbc K := hC

/-- **one call, any bytes**: from every state satisfying the invariant each entry point returns `ok`
    and re-establishes the invariant: `decrypt` / `encrypt` on data of any length (empty and longer than
    the key included), `decrypt_server_header([u8; 4])`, `decrypt_client_header([u8; 6])`,
    `read_and_decrypt_*_header` on any reader behaviour (short reads, interruptions, errors, EOF). -/
theorem C14_headers (e : Exp) (h : Half) (hi : h.Inv e.keyLen) :
    (∀ data, ∃ h' out, h.decrypt e data = .ok (h', out) ∧ h'.Inv e.keyLen ∧ out.length = data.length) ∧
    (∀ data, ∃ h' out, h.encrypt e data = .ok (h', out) ∧ h'.Inv e.keyLen ∧ out.length = data.length) ∧
    (∀ data, data.length = 4 → ∃ h' r, h.decryptServerHeader e data = .ok (h', r) ∧ h'.Inv e.keyLen) ∧
    (∀ data, data.length = 6 → ∃ h' r, h.decryptClientHeader e data = .ok (h', r) ∧ h'.Inv e.keyLen) ∧
    (∀ script, ∃ r, h.readServerHeader e script = .ok r ∧ r.state.Inv e.keyLen) ∧
    (∀ script, ∃ r, h.readClientHeader e script = .ok r ∧ r.state.Inv e.keyLen) :=
  ⟨fun d => Half.decrypt_ok e h d hi, fun d => Half.encrypt_ok e h d hi,
   fun d hl => Half.decryptServerHeader_ok e h d hi hl, fun d hl => Half.decryptClientHeader_ok e h d hi hl,
   fun s => Half.readServerHeader_ok e h s hi, fun s => Half.readClientHeader_ok e h s hi⟩

/-- one call a peer can provoke on a half (its output is dropped: only the state matters for what
    happens next) -/
inductive HalfCall where
  | decrypt (data : Bytes)
  | encrypt (data : Bytes)
  | decryptServerHeader (data : Bytes)
  | decryptClientHeader (data : Bytes)
  | readServerHeader (script : List REv)
  | readClientHeader (script : List REv)

/-- what the Rust types guarantee about the arguments: the header arrays are `[u8; 4]` / `[u8; 6]` -/
def HalfCall.Typed : HalfCall → Prop
  | .decryptServerHeader d => d.length = 4
  | .decryptClientHeader d => d.length = 6
  | _ => True

def HalfCall.run (e : Exp) (h : Half) : HalfCall → Out Half
  | .decrypt d => do let (h', _) ← h.decrypt e d; pure h'
  | .encrypt d => do let (h', _) ← h.encrypt e d; pure h'
  | .decryptServerHeader d => do let (h', _) ← h.decryptServerHeader e d; pure h'
  | .decryptClientHeader d => do let (h', _) ← h.decryptClientHeader e d; pure h'
  | .readServerHeader s => do let r ← h.readServerHeader e s; pure r.state
  | .readClientHeader s => do let r ← h.readClientHeader e s; pure r.state

theorem HalfCall.run_ok (e : Exp) (h : Half) (c : HalfCall) (hi : h.Inv e.keyLen) (ht : c.Typed) :
    ∃ h', c.run e h = .ok h' ∧ h'.Inv e.keyLen := by
  obtain ⟨h1, h2, h3, h4, h5, h6⟩ := C14_headers e h hi
  cases c with
  | decrypt d => obtain ⟨h', o, hr, hi', _⟩ := h1 d; exact ⟨h', by simp [HalfCall.run, hr], hi'⟩
  | encrypt d => obtain ⟨h', o, hr, hi', _⟩ := h2 d; exact ⟨h', by simp [HalfCall.run, hr], hi'⟩
  | decryptServerHeader d => obtain ⟨h', o, hr, hi'⟩ := h3 d ht; exact ⟨h', by simp [HalfCall.run, hr], hi'⟩
  | decryptClientHeader d => obtain ⟨h', o, hr, hi'⟩ := h4 d ht; exact ⟨h', by simp [HalfCall.run, hr], hi'⟩
  | readServerHeader s => obtain ⟨r, hr, hi'⟩ := h5 s; exact ⟨r.state, by simp [HalfCall.run, hr], hi'⟩
  | readClientHeader s => obtain ⟨r, hr, hi'⟩ := h6 s; exact ⟨r.state, by simp [HalfCall.run, hr], hi'⟩

/-- **any sequence of calls, any bytes, any amount**: starting from a freshly constructed half (either
    one) over a proper key, no history of calls — in any order, with any data, with any reader scripts —
    reaches a panic. -/
theorem C14_headers_history (C : Crypto) (e : Exp) (K : Bytes) (hK : HeaderKeyOk C e K)
    (calls : List HalfCall) (ht : ∀ c ∈ calls, c.Typed) :
    (∃ h', runCalls (HalfCall.run e) (Half.newDec C e K) calls = .ok h') ∧
    (∃ h', runCalls (HalfCall.run e) (Half.newEnc C e K) calls = .ok h') := by
  have hrun := fun h hi => (runCalls_ok_of_inv (HalfCall.run e) (Half.Inv e.keyLen) HalfCall.Typed
    (HalfCall.run_ok e) h calls hi ht).imp fun _ => And.left
  exact ⟨hrun _ (Half.newDec_inv C e K hK), hrun _ (Half.newEnc_inv C e K hK)⟩

/-- the same for several `decrypt` calls with their outputs kept (`runChunks`, as in C07) -/
theorem C14_headers_chunks (C : Crypto) (e : Exp) (K : Bytes) (hK : HeaderKeyOk C e K) (chunks : List Bytes) :
    ∃ h' out, runChunks (Half.decrypt e) (Half.newDec C e K) chunks = .ok (h', out) ∧
      out.length = chunks.flatten.length :=
  let ⟨h', out, hr, _, hl⟩ := Half.decrypt_ok e (Half.newDec C e K) chunks.flatten (Half.newDec_inv C e K hK)
  ⟨h', out, (runChunks_flatten _ _ chunks).trans hr, hl⟩

/-- the `HeaderCrypto` facade (server: `decrypt_client_header`, client: `decrypt_server_header`, both:
    `decrypt` / `encrypt`) delegates to the halves and is as total as they are -/
theorem C14_headers_facade (e : Exp) (hc : HeaderCrypto) (hi : hc.Inv e) :
    (∀ data, ∃ hc' out, hc.decryptData e data = .ok (hc', out) ∧ hc'.Inv e ∧ out.length = data.length) ∧
    (∀ data, ∃ hc' out, hc.encryptData e data = .ok (hc', out) ∧ hc'.Inv e ∧ out.length = data.length) ∧
    (∀ data, data.length = 4 → ∃ hc' r, hc.decryptServerHeader e data = .ok (hc', r) ∧ hc'.Inv e) ∧
    (∀ data, data.length = 6 → ∃ hc' r, hc.decryptClientHeader e data = .ok (hc', r) ∧ hc'.Inv e) :=
  -- each method is its half's with the new half put back (`HeaderCrypto.…_eq`, Lemmas/Facade.lean)
  ⟨fun d => let ⟨_, _, hd, hi', hl⟩ := Half.decrypt_ok e hc.decrypt d hi.1
     ⟨_, _, (hc.decryptData_eq e d).trans (Out.mapOk_ok _ hd), ⟨hi', hi.2⟩, hl⟩,
   fun d => let ⟨_, _, hd, hi', hl⟩ := Half.encrypt_ok e hc.encrypt d hi.2
     ⟨_, _, (hc.encryptData_eq e d).trans (Out.mapOk_ok _ hd), ⟨hi.1, hi'⟩, hl⟩,
   fun d hl => let ⟨_, _, hd, hi'⟩ := Half.decryptServerHeader_ok e hc.decrypt d hi.1 hl
     ⟨_, _, (hc.decryptServerHeader_eq e d).trans (Out.mapOk_ok _ hd), hi', hi.2⟩,
   fun d hl => let ⟨_, _, hd, hi'⟩ := Half.decryptClientHeader_ok e hc.decrypt d hi.1 hl
     ⟨_, _, (hc.decryptClientHeader_eq e d).trans (Out.mapOk_ok _ hd), hi', hi.2⟩⟩

/-- **the four Read / Write wrappers of the combined object** (`HeaderCrypto::{read_and_decrypt_server_header,
    read_and_decrypt_client_header, write_encrypted_server_header, write_encrypted_client_header}`) are as
    total as the halves' wrappers they delegate to: on any reader / writer behaviour (short reads and
    writes, interruptions, errors, EOF, `Ok(0)`) and for any `size` / `opcode` they return — an `io::Result`,
    never a panic — and re-establish the invariant -/
theorem C14_headers_facade_io (e : Exp) (hc : HeaderCrypto) (hi : hc.Inv e) :
    (∀ script, ∃ R, hc.readServerHeader e script = .ok R ∧ R.state.Inv e) ∧
    (∀ script, ∃ R, hc.readClientHeader e script = .ok R ∧ R.state.Inv e) ∧
    (∀ size opcode script, ∃ R, hc.writeServerHeader e size opcode script = .ok R ∧ R.state.Inv e) ∧
    (∀ size opcode script, ∃ R, hc.writeClientHeader e size opcode script = .ok R ∧ R.state.Inv e) :=
  ⟨fun sc => let ⟨_, hr, hi'⟩ := Half.readServerHeader_ok e hc.decrypt sc hi.1
     ⟨_, (hc.readServerHeader_eq e sc).trans (Out.mapOk_ok _ hr), hi', hi.2⟩,
   fun sc => let ⟨_, hr, hi'⟩ := Half.readClientHeader_ok e hc.decrypt sc hi.1
     ⟨_, (hc.readClientHeader_eq e sc).trans (Out.mapOk_ok _ hr), hi', hi.2⟩,
   fun s o w => let ⟨_, _, hr, hi', _⟩ := Half.encrypt_ok e hc.encrypt (serverHeaderBytes s o) hi.2
     ⟨_, ((hc.writeServerHeader_eq e s o w).trans (Out.mapOk_ok _ ((Half.writeServerHeader_eq ..).trans
       (Out.mapOk_ok _ hr)))), hi.1, hi'⟩,
   fun s o w => let ⟨_, _, hr, hi', _⟩ := Half.encrypt_ok e hc.encrypt (clientHeaderBytes s o) hi.2
     ⟨_, ((hc.writeClientHeader_eq e s o w).trans (Out.mapOk_ok _ ((Half.writeClientHeader_eq ..).trans
       (Out.mapOk_ok _ hr)))), hi.1, hi'⟩⟩

/-- the hypothesis on the key is needed: a Vanilla half over a 39-byte "session key" indexes out of
    bounds on its 40th byte (the API's `[u8; 40]` excludes this) -/
example : (Half.newDec Crypto.real .vanilla (List.replicate 39 0)).decrypt .vanilla (List.replicate 40 0)
    = .panic "decrypt.rs: session_key[index] out of bounds" := by decide
/-- non-vacuity: 100 bytes through a Vanilla decrypter over a 40-byte key -/
example :
    ((Half.newDec Crypto.real .vanilla (List.replicate 40 7)).decrypt .vanilla (List.replicate 100 9)).isOk = true := by
  decide

/-! ## header bytes, Wrath

Invariants: `r.state.size = 256` for a bare RC4 (`ServerDecrypterHalf`, `ClientEncrypterHalf`);
`WClientDec.Inv`: that and a 4-byte header buffer. All RC4 indices are `u8`s. -/

/-- **Wrath, client's decrypter, one call**: `decrypt` on any data, `attempt_decrypt_server_header([u8; 4])`,
    `decrypt_large_server_header(u8)` (also without a preceding attempt),
    `read_and_decrypt_server_header` on any reader behaviour -/
theorem C14_wrath_client (h : WClientDec) (hi : h.Inv) :
    (∀ data, ∃ h' out, h.decrypt data = .ok (h', out) ∧ h'.Inv ∧ out.length = data.length) ∧
    (∀ buf, buf.length = 4 → ∃ h' a, h.attempt buf = .ok (h', a) ∧ h'.Inv) ∧
    (∀ byte, ∃ h' r, h.decryptLarge byte = .ok (h', r) ∧ h'.Inv) ∧
    (∀ script, ∃ r, h.readServerHeader script = .ok r ∧ r.state.Inv) :=
  ⟨fun d => WClientDec.decrypt_ok h d hi, fun b hl => WClientDec.attempt_ok h b hi hl,
   fun b => ⟨_, _, WClientDec.decryptLarge_eq h hi.1 hi.2 b, Rc4.advance_inv _ _ hi.1, hi.2⟩,
   -- the refinement lemma also places the result in a Spec session; its encrypter slot plays no role, any generator fills it
   fun s => let ⟨r, h1, h2, h3, _⟩ := h.readServerHeader_refines h.rc4.abs hi.1 hi.2 s
     ⟨r, h1, h2, h3⟩⟩

/-- **Wrath, bare RC4 halves (server's decrypter), one call**: `apply_keystream` on any data,
    `decrypt_client_header([u8; 6])`, `read_and_decrypt_client_header` on any reader behaviour -/
theorem C14_wrath_server (r : Rc4) (hs : r.state.size = 256) :
    (∀ data, ∃ r' out, r.apply data = .ok (r', out) ∧ r'.state.size = 256 ∧ out.length = data.length) ∧
    (∀ data, data.length = 6 → ∃ r' h, wServerDecryptHeader r data = .ok (r', h) ∧ r'.state.size = 256) ∧
    (∀ script, ∃ res, wServerReadHeader r script = .ok res ∧ res.state.state.size = 256) :=
  ⟨fun d => Rc4.apply_ok r d hs, fun d hl => wServerDecryptHeader_ok r d hs hl,
   fun s => wServerReadHeader_ok r s hs⟩

/-- the server's encrypter (not peer-fed, for completeness) -/
theorem C14_wrath_server_enc (h : WServerEnc) (hi : h.Inv) :
    (∀ data, ∃ h' out, h.encrypt data = .ok (h', out) ∧ h'.Inv) ∧
    (∀ size opcode, ∃ h' out, h.encryptServerHeader size opcode = .ok (h', out) ∧ h'.Inv) :=
  ⟨fun d => WServerEnc.encrypt_ok h d hi,
   fun s o => ⟨_, _, WServerEnc.encryptServerHeader_eq h hi s o, Rc4.advance_inv _ _ hi⟩⟩

inductive WClientDecCall where
  | decrypt (data : Bytes)
  | attempt (buf : Bytes)
  | decryptLarge (byte : UInt8)
  | readServerHeader (script : List REv)

def WClientDecCall.Typed : WClientDecCall → Prop
  | .attempt b => b.length = 4
  | _ => True

def WClientDecCall.run (h : WClientDec) : WClientDecCall → Out WClientDec
  | .decrypt d => do let (h', _) ← h.decrypt d; pure h'
  | .attempt b => do let (h', _) ← h.attempt b; pure h'
  | .decryptLarge b => do let (h', _) ← h.decryptLarge b; pure h'
  | .readServerHeader s => do let r ← h.readServerHeader s; pure r.state

inductive Rc4Call where
  | apply (data : Bytes)
  | decryptClientHeader (data : Bytes)
  | readClientHeader (script : List REv)

def Rc4Call.Typed : Rc4Call → Prop
  | .decryptClientHeader d => d.length = 6
  | _ => True

def Rc4Call.run (r : Rc4) : Rc4Call → Out Rc4
  | .apply d => do let (r', _) ← r.apply d; pure r'
  | .decryptClientHeader d => do let (r', _) ← wServerDecryptHeader r d; pure r'
  | .readClientHeader s => do let res ← wServerReadHeader r s; pure res.state

theorem WClientDecCall.run_ok (h : WClientDec) (c : WClientDecCall) (hi : h.Inv) (ht : c.Typed) :
    ∃ h', c.run h = .ok h' ∧ h'.Inv := by
  obtain ⟨h1, h2, h3, h4⟩ := C14_wrath_client h hi
  cases c with
  | decrypt d => obtain ⟨h', o, hr, hi', _⟩ := h1 d; exact ⟨h', by simp [WClientDecCall.run, hr], hi'⟩
  | attempt d => obtain ⟨h', o, hr, hi'⟩ := h2 d ht; exact ⟨h', by simp [WClientDecCall.run, hr], hi'⟩
  | decryptLarge d => obtain ⟨h', o, hr, hi'⟩ := h3 d; exact ⟨h', by simp [WClientDecCall.run, hr], hi'⟩
  | readServerHeader s => obtain ⟨r, hr, hi'⟩ := h4 s; exact ⟨r.state, by simp [WClientDecCall.run, hr], hi'⟩

theorem Rc4Call.run_ok (r : Rc4) (c : Rc4Call) (hs : r.state.size = 256) (ht : c.Typed) :
    ∃ r', c.run r = .ok r' ∧ r'.state.size = 256 := by
  obtain ⟨h1, h2, h3⟩ := C14_wrath_server r hs
  cases c with
  | apply d => obtain ⟨r', o, hr, hi', _⟩ := h1 d; exact ⟨r', by simp [Rc4Call.run, hr], hi'⟩
  | decryptClientHeader d => obtain ⟨r', o, hr, hi'⟩ := h2 d ht; exact ⟨r', by simp [Rc4Call.run, hr], hi'⟩
  | readClientHeader s => obtain ⟨res, hr, hi'⟩ := h3 s; exact ⟨res.state, by simp [Rc4Call.run, hr], hi'⟩

/-- **Wrath, any history**: every half constructed by `new` (for every `Crypto` and session key) exists
    (no panic in keying / drop) and survives every sequence of calls with any bytes. -/
theorem C14_wrath_history (C : Crypto) (K : Bytes) :
    (∃ d, WClientDec.new C K = .ok d ∧
      ∀ calls : List WClientDecCall, (∀ c ∈ calls, c.Typed) → ∃ d', runCalls WClientDecCall.run d calls = .ok d') ∧
    (∃ r, WServerDec.new C K = .ok r ∧
      ∀ calls : List Rc4Call, (∀ c ∈ calls, c.Typed) → ∃ r', runCalls Rc4Call.run r calls = .ok r') ∧
    (∃ r, WClientEnc.new C K = .ok r ∧
      ∀ calls : List Rc4Call, (∀ c ∈ calls, c.Typed) → ∃ r', runCalls Rc4Call.run r calls = .ok r') := by
  have hrc := fun r (hr : r.Inv) (calls : List Rc4Call) ht => (runCalls_ok_of_inv Rc4Call.run (·.state.size = 256)
    Rc4Call.Typed Rc4Call.run_ok r calls hr ht).imp fun _ => And.left
  have hd : (⟨wrathGen C Gen.wrathR K, List.replicate 4 0⟩ : WClientDec).Inv := ⟨wrathGen_inv .., rfl⟩
  exact ⟨⟨_, WClientDec.new_eq C K, fun calls ht => (runCalls_ok_of_inv WClientDecCall.run WClientDec.Inv
      WClientDecCall.Typed WClientDecCall.run_ok _ calls hd ht).imp fun _ => And.left⟩,
    ⟨_, WServerDec.new_eq C K, hrc _ (wrathGen_inv ..)⟩, ⟨_, WClientEnc.new_eq C K, hrc _ (wrathGen_inv ..)⟩⟩

end WowSrp

#print axioms WowSrp.C14_headers_facade_io
