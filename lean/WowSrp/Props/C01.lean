/-
C01 — honest client and server always authenticate and agree on the session key.
The property theorems, the relation `SameUpToLetterCase` their hypotheses use, and non-vacuity examples.
The lemmas are in `Lemmas/Srp.lean` (the equations of the model functions in the terms of
`Spec/Srp.lean`), `Lemmas/SrpGroup.lean` (agreement of the secrets, from `Lemmas/SrpAlgebra.lean`),
`Lemmas/NStr.lean`, `Lemmas/LE.lean`.
-/
import WowSrp.Lemmas.SrpGroup
import WowSrp.Lemmas.NStr
import WowSrp.Lemmas.RealWF
import WowSrp.Props.C03
namespace WowSrp

/-- two spellings of a credential that differ at most in ASCII letter case: same length, and equal
    character by character after ASCII upper-casing (`Char.toUpper` moves exactly 'a'..'z') -/
def SameUpToLetterCase (cs cs' : List Char) : Prop :=
  cs.length = cs'.length ∧
  ∀ (i : Nat) (h : i < cs.length) (h' : i < cs'.length), cs[i].toUpper = cs'[i].toUpper

theorem SameUpToLetterCase.map_upperCode {cs cs' : List Char} (h : SameUpToLetterCase cs cs') :
    cs.map upperCode = cs'.map upperCode := by
  apply List.ext_getElem
  · simp [h.1]
  · intro i h1 h2
    simp only [List.length_map] at h1 h2
    simp only [List.getElem_map]
    rw [← toUpper_toNat, ← toUpper_toNat, h.2 i h1 h2]

/-- **credentials are case-insensitive**: a spelling that differs only in ASCII case constructs the
    very same `NormalizedString` -/
theorem C01_case_invariant (cs cs' : List Char) (h : SameUpToLetterCase cs cs') :
    NStr.new cs = NStr.new cs' := new_congr h.map_upperCode

/-- **storage round trip of the record**: `from_database_values (username, verifier, salt)` is the
    identity on the record, and the username text re-imports to the same `NormalizedString` -/
theorem C01_storage_round_trip (cs : List Char) (U : NStr) (hU : NStr.new cs = .ok U)
    (ver : SrpVerifier) :
    SrpVerifier.fromDatabaseValues ver.username ver.passwordVerifier ver.salt = ver ∧
    NStr.new (bytesToChars U.asRef) = .ok U :=
  ⟨rfl, NStr.new_bytesToChars_asRef cs U hU⟩

/-- **the two secrets are one number** — every x, a, b, u; the client's base `B − 3·v` is negative
    whenever `B < 3·v` and is reduced with the non-negative remainder (inside `Spec.Sclient`) -/
theorem C01_secrets_agree (x a b u : Nat) :
    Spec.Sclient (Spec.B (Spec.v 7 x Spec.N) b) x a u 7 Spec.N
      = Spec.Sserver (Spec.A 7 a Spec.N) (Spec.v 7 x Spec.N) u b :=
  Spec.S_agree x a b u

/-- **public keys are accepted**: A = 7^a mod N lies in [1, N−1] for every a (N is prime and does not
    divide 7 — no hypothesis needed) and its 32 bytes pass `PublicKey::from_le_bytes`; B passes whenever
    it is non-zero -/
theorem C01_public_keys_accepted (a : Nat) (v b : Nat) :
    PublicKey.fromLE (leN 32 (Spec.A 7 a Spec.N)) = .ok (leN 32 (Spec.A 7 a Spec.N)) ∧
    (Spec.B v b ≠ 0 → PublicKey.fromLE (leN 32 (Spec.B v b)) = .ok (leN 32 (Spec.B v b))) :=
  ⟨PublicKey.fromLE_leN_ok _ (Spec.A_builtin_ne_zero a) (Spec.A_builtin_lt a),
   fun h => PublicKey.fromLE_leN_ok _ h (Spec.B_lt v b)⟩

/-- **same 32 bytes on both sides**: a number below 2^256 lands in the server's `From<Integer>` array
    (`padCopy`) and in the client's `to_padded_32_byte_array_le` array as the same 32 bytes `leN 32 n`,
    whichever back end either side runs and however many high-order zero bytes (0..32) the number
    has — zero itself included (`[0]` from num-bigint, `[]` from rug) -/
theorem C01_same_padding (be be' : Backend) (n : Nat) (h : n < 256 ^ 32) (site : String) :
    padCopy 32 (be.toBytesLe n) site = .ok (leN 32 n) ∧ toPadded32 be' n = .ok (leN 32 n) ∧
    (leN 32 n).length = 32 ∧ ofLE (leN 32 n) = n :=
  ⟨padCopy_toBytesLe be 32 n site h (by omega), toPadded32_eq be' n h, leN_length 32 n, ofLE_leN 32 n h⟩

/-- **the documented `into_proof` panic, exactly**: with the drawn private key `b` the call panics iff
    B = (3·v + 7^b) mod N is 0 (both back ends; any stored verifier) -/
theorem C01_intoProof_panics_iff (be : Backend) (ver : SrpVerifier) (b : Bytes) :
    (∃ site, ver.intoProof be b = .panic site) ↔
      (3 * ofLE ver.passwordVerifier + 7 ^ ofLE b % Spec.N) % Spec.N = 0 := by
  rw [SrpVerifier.intoProof_spec]
  exact Out.ite_panic_iff

/-- the excluded class is not empty (so the exclusion is real): a verifier value with `3·v ≡ −7 (mod N)`
    and the private key b = 1 make `into_proof` panic -/
example : ∃ (v : Bytes), v.length = 32 ∧ ∀ (be : Backend) (u : NStr) (salt : Bytes),
    ∃ site, (SrpVerifier.fromDatabaseValues u v salt).intoProof be [1] = .panic site := by
  refine ⟨leN 32 ((Spec.N - 7) * ((Spec.N + 1) / 3) % Spec.N), leN_length _ _, ?_⟩
  intro be u salt
  rw [C01_intoProof_panics_iff]
  simp only [SrpVerifier.fromDatabaseValues]
  rw [ofLE_leN 32 _ (Nat.lt_trans (Nat.mod_lt _ specN_pos) specN_lt)]
  decide +kernel

/-- **the four calls of an honest exchange, on the objects** (no strings, no storage): for every account
    `(U, P, salt)`, both private keys and the challenge draw, unless B = (3·v + 7^b) mod N is 0,
    `into_proof`, `SrpClientChallenge::new`, `into_server` and `verify_server_proof` return exactly these
    objects — one key `K` in the `SrpServer` and in the `SrpClient`. The client's secret is rewritten
    into the server's with `Spec.S_agree`; nothing else is more than substitution. -/
theorem C01_honest_steps (C : Crypto) (hC : C.WF) (hx : C.XorHashOk) (be : Backend) (U P : NStr)
    (salt b a challenge : Bytes)
    (hB : (3 * (7 ^ Spec.x C U.asRef P.asRef salt % Spec.N) + 7 ^ ofLE b % Spec.N) % Spec.N ≠ 0) :
    let x := Spec.x C U.asRef P.asRef salt
    let v := Spec.v 7 x Spec.N
    let Bv := Spec.B v (ofLE b)
    let Av := Spec.A 7 (ofLE a) Spec.N
    let K := Spec.K C (Spec.Sserver Av v (Spec.u C Av Bv) (ofLE b))
    let M1 := Spec.M1 C Gen.largeSafePrimeLE 7 U.asRef salt (leN 32 Av) (leN 32 Bv) K
    let proof : SrpProof := ⟨U, leN 32 Bv, salt, b, leN 32 v⟩
    let cc : SrpClientChallenge := ⟨U, M1, leN 32 Av, K⟩
    (⟨U, leN 32 v, salt⟩ : SrpVerifier).intoProof be b = .ok proof ∧
    SrpClientChallenge.new C be U P gBig Gen.largeSafePrimeLE (leN 32 Bv) salt a = .ok cc ∧
    proof.intoServer C be (leN 32 Av) M1 challenge =
      .ok (.ok (⟨U, K, challenge⟩, Spec.M2 C (leN 32 Av) M1 K)) ∧
    cc.verifyServerProof C (Spec.M2 C (leN 32 Av) M1 K) = .ok ⟨U, K⟩ := by
  intro x v Bv Av K M1 proof cc
  have hv : ofLE (leN 32 v) = v := ofLE_leN_of_lt_nBig (Spec.v_builtin_lt x)
  have hBo : ofLE (leN 32 Bv) = Bv := ofLE_leN_B v (ofLE b)
  have hAo : ofLE (leN 32 Av) = Av := ofLE_leN_of_lt_nBig (Spec.A_builtin_lt _)
  have hproof : (⟨U, leN 32 v, salt⟩ : SrpVerifier).intoProof be b = .ok proof := by
    rw [SrpVerifier.intoProof_spec]
    simp only [hv]
    exact if_neg hB
  have hcc : SrpClientChallenge.new C be U P gBig Gen.largeSafePrimeLE (leN 32 Bv) salt a = _ :=
    SrpClientChallenge.new_builtin C hC be U P (leN 32 Bv) salt a (leN_length _ _)
  rw [hBo, Spec.S_agree x (ofLE a) (ofLE b)] at hcc
  have hsrv : proof.intoServer C be (leN 32 Av) M1 challenge = _ :=
    SrpProof.intoServer_spec C hC be proof (leN 32 Av) M1 challenge (leN_length _ _) (leN_length _ _)
  simp only [proof, hAo, hBo, hv] at hsrv
  rw [if_pos (calculateClientProof_spec C hx _ _ _ _ _).symm] at hsrv
  exact ⟨hproof, hcc, hsrv, by rw [SrpClientChallenge.verifyServerProof_spec]; exact if_pos rfl⟩

/-- **C01, with every value named.** For every permitted username and password (`NStr.new` succeeds),
    every spelling of them on the client that differs only in ASCII case, every salt, every pair of
    private keys a, b and every reconnect challenge (byte strings of any length — the API fixes
    32/32/32/16), with or without export of the account record to storage and re-import, on both
    back ends: unless B = (3·v + 7^b) mod N is 0 (the documented `into_proof` panic,
    `C01_intoProof_panics_iff`), the whole exchange of `runLogin` succeeds — the client accepts B, the
    server accepts A and the client's M1, the client accepts the server's M2 — and server and client
    hold the same session key, namely the Spec's K. All values exchanged are the Spec's. -/
theorem C01_login_exact (C : Crypto) (hC : C.WF) (hx : C.XorHashOk) (be : Backend)
    (us ps uc pc : List Char) (viaStorage : Bool) (salt b a challenge : Bytes) (U P : NStr)
    (hU : NStr.new us = .ok U) (hP : NStr.new ps = .ok P)
    (hu : SameUpToLetterCase us uc) (hp : SameUpToLetterCase ps pc)
    (hB : (3 * (7 ^ Spec.x C U.asRef P.asRef salt % Spec.N) + 7 ^ ofLE b % Spec.N) % Spec.N ≠ 0) :
    let x := Spec.x C U.asRef P.asRef salt
    let v := Spec.v 7 x Spec.N
    let Bv := Spec.B v (ofLE b)
    let Av := Spec.A 7 (ofLE a) Spec.N
    let K := Spec.K C (Spec.Sserver Av v (Spec.u C Av Bv) (ofLE b))
    let M1 := Spec.M1 C Gen.largeSafePrimeLE 7 U.asRef salt (leN 32 Av) (leN 32 Bv) K
    runLogin C be us ps uc pc viaStorage salt b a challenge
      = .ok K K (leN 32 Av) (leN 32 Bv) M1 (Spec.M2 C (leN 32 Av) M1 K) (leN 32 v) := by
  intro x v Bv Av K M1
  have hU' : NStr.new uc = .ok U := by rw [← C01_case_invariant us uc hu, hU]
  have hP' : NStr.new pc = .ok P := by rw [← C01_case_invariant ps pc hp, hP]
  have hrt : NStr.new (bytesToChars U.asRef) = .ok U := NStr.new_bytesToChars_asRef us U hU
  have hBok : PublicKey.fromLE (leN 32 Bv) = .ok (leN 32 Bv) :=
    PublicKey.fromLE_leN_ok _ hB (Spec.B_lt _ _)
  have hAok : PublicKey.fromLE (leN 32 Av) = .ok (leN 32 Av) :=
    PublicKey.fromLE_leN_ok _ (Spec.A_builtin_ne_zero _) (Spec.A_builtin_lt _)
  obtain ⟨hproof, hcc, hsrv, hcl⟩ := C01_honest_steps C hC hx be U P salt b a challenge hB
  -- `hrt`: the storage round trip gives back the same record
  simp only [x, v, Bv, Av, K, M1] at hBok hAok ⊢
  simp only [runLogin, hU, hP, hU', hP', SrpVerifier.fromUsernameAndPassword_spec, hrt,
    SrpVerifier.fromDatabaseValues, ite_self, hproof, hBok, hcc, hAok, hsrv, hcl]

/-- **C01.** Honest client and server always authenticate and agree on the session key: under the
    hypotheses of `C01_login_exact` the exchange ends in `LoginResult.ok K K A B M1 M2 v` — the server
    accepted M1, the client accepted M2, and the two session keys are the same 40 bytes.
    `7 ^ a % N ≠ 0` is not a hypothesis: it always holds (N prime, `C01_public_keys_accepted`).
    `S ≠ 0` is not needed either: the bounded zero scan handles every 32-byte S (`C03_interleave`). -/
theorem C01_login_agrees (C : Crypto) (hC : C.WF) (hx : C.XorHashOk) (be : Backend)
    (us ps uc pc : List Char) (viaStorage : Bool) (salt b a challenge : Bytes) (U P : NStr)
    (hU : NStr.new us = .ok U) (hP : NStr.new ps = .ok P)
    (hu : SameUpToLetterCase us uc) (hp : SameUpToLetterCase ps pc)
    (hB : (3 * (7 ^ Spec.x C U.asRef P.asRef salt % Spec.N) + 7 ^ ofLE b % Spec.N) % Spec.N ≠ 0) :
    ∃ K A B M1 M2 vbytes,
      runLogin C be us ps uc pc viaStorage salt b a challenge = .ok K K A B M1 M2 vbytes ∧
      K.length = 40 :=
  ⟨_, _, _, _, _, _,
   C01_login_exact C hC hx be us ps uc pc viaStorage salt b a challenge U P hU hP hu hp hB,
   Spec.interleave_length C hC _⟩

/-- the executable hashes satisfy both assumptions on `C` -/
theorem C01_real_assumptions : Crypto.real.WF ∧ Crypto.real.XorHashOk :=
  ⟨Crypto.real_WF, C03_xor_hash_real⟩

/-- **C01 for the real hash functions** (SHA-1 per FIPS 180-4 as executed by the driver): no assumption
    on the hash is left -/
theorem C01_real (be : Backend)
    (us ps uc pc : List Char) (viaStorage : Bool) (salt b a challenge : Bytes) (U P : NStr)
    (hU : NStr.new us = .ok U) (hP : NStr.new ps = .ok P)
    (hu : SameUpToLetterCase us uc) (hp : SameUpToLetterCase ps pc)
    (hB : (3 * (7 ^ Spec.x Crypto.real U.asRef P.asRef salt % Spec.N) + 7 ^ ofLE b % Spec.N) % Spec.N ≠ 0) :
    ∃ K A B M1 M2 vbytes,
      runLogin Crypto.real be us ps uc pc viaStorage salt b a challenge = .ok K K A B M1 M2 vbytes ∧
      K.length = 40 :=
  C01_login_agrees Crypto.real Crypto.real_WF C03_xor_hash_real be us ps uc pc viaStorage salt b a
    challenge U P hU hP hu hp hB

/-! ### non-vacuity

Concrete credentials ("alice" / "password123", typed as "Alice" / "PassWord123" on the client) and
concrete 32-byte salt and private keys meet every hypothesis of `C01_real`; all of them are checked
by kernel evaluation (`NStr.new`, the case relation, two SHA-1 evaluations and two 256-bit modular
exponentiations for `B ≠ 0`). The conclusion of the last example comes from the theorem, not from
evaluating `runLogin`. -/

private def exSalt : Bytes := (List.range 32).map (fun i => UInt8.ofNat (i * 7 + 3))
private def exA : Bytes := (List.range 32).map (fun i => UInt8.ofNat (i * 13 + 101))
private def exB : Bytes := (List.range 32).map (fun i => UInt8.ofNat (i * 29 + 57))
private def exChallenge : Bytes := (List.range 16).map (fun i => UInt8.ofNat (i + 1))
/-- "ALICE" -/
private def exU : NStr := ⟨[0x41, 0x4c, 0x49, 0x43, 0x45] ++ List.replicate 11 0, 5⟩
/-- "PASSWORD123" -/
private def exP : NStr :=
  ⟨[0x50, 0x41, 0x53, 0x53, 0x57, 0x4f, 0x52, 0x44, 0x31, 0x32, 0x33] ++ List.replicate 5 0, 11⟩

/-- the hypotheses of `C01_real` on the example inputs, evaluated once for the two examples below -/
private theorem exHyps : NStr.new "alice".toList = .ok exU ∧ NStr.new "password123".toList = .ok exP ∧
    SameUpToLetterCase "alice".toList "Alice".toList ∧
    SameUpToLetterCase "password123".toList "PassWord123".toList ∧
    exSalt.length = 32 ∧ exA.length = 32 ∧ exB.length = 32 ∧ exChallenge.length = 16 ∧
    (3 * (7 ^ Spec.x Crypto.real exU.asRef exP.asRef exSalt % Spec.N) + 7 ^ ofLE exB % Spec.N) % Spec.N ≠ 0 := by
  refine ⟨by decide +kernel, by decide +kernel, by unfold SameUpToLetterCase; decide +kernel,
    by unfold SameUpToLetterCase; decide +kernel, by decide, by decide, by decide, by decide, ?_⟩
  rw [pow_mod_eq_powMod, pow_mod_eq_powMod, Crypto.real_eq_fast]
  decide +kernel

example : NStr.new "alice".toList = .ok exU ∧ NStr.new "password123".toList = .ok exP ∧
    SameUpToLetterCase "alice".toList "Alice".toList ∧
    SameUpToLetterCase "password123".toList "PassWord123".toList ∧
    exSalt.length = 32 ∧ exA.length = 32 ∧ exB.length = 32 ∧ exChallenge.length = 16 ∧
    (3 * (7 ^ Spec.x Crypto.real exU.asRef exP.asRef exSalt % Spec.N) + 7 ^ ofLE exB % Spec.N) % Spec.N ≠ 0 :=
  exHyps

example (be : Backend) (viaStorage : Bool) : ∃ K A B M1 M2 vbytes,
    runLogin Crypto.real be "alice".toList "password123".toList "Alice".toList "PassWord123".toList
      viaStorage exSalt exB exA exChallenge = .ok K K A B M1 M2 vbytes ∧ K.length = 40 :=
  C01_real be _ _ _ _ viaStorage exSalt exB exA exChallenge exU exP exHyps.1 exHyps.2.1 exHyps.2.2.1
    exHyps.2.2.2.1 exHyps.2.2.2.2.2.2.2.2

end WowSrp
