/-
C16 — PIN hashes follow the keypad-remap scheme; verification is exact. The Spec is Spec/Pin.lean.
-/
import WowSrp.Lemmas.Pin
namespace WowSrp

/-- tie to the source: the constants the theorems below are about;
    re-checked against the regenerated constants on every run -/
theorem C16_constants :
    Gen.minPinLength = 4 ∧ Gen.maxPinLength = 10 ∧ Gen.pinAsciiOffset = 0x30 ∧
    Gen.pinInitialGrid = [0, 1, 2, 3, 4, 5, 6, 7, 8, 9] := by decide

/-- the Spec's digit string really is *the* decimal numeral of the number: every entry is a digit,
    read as a decimal numeral (most significant first) it gives the number back, there is no leading
    zero, and it has at most `k` digits exactly when the number is below `10^k` (0 has no digits) -/
theorem C16_spec_digits (n : Nat) :
    (∀ d ∈ Spec.digits n, d < 10) ∧ Spec.ofDigits (Spec.digits n) = n ∧
    (∀ d, (Spec.digits n).head? = some d → d ≠ 0) ∧
    (∀ k, (Spec.digits n).length ≤ k ↔ n < 10 ^ k) ∧ Spec.digits 0 = [] :=
  ⟨Spec.digits_lt n, Spec.digits_value n, Spec.digits_head_ne_zero n,
    fun k => Spec.digits_length_le_iff n k, by simp [Spec.digits, Spec.digitsRev_zero]⟩

/-- **digits**: for every `u32` PIN, `pin_to_bytes` returns its decimal digits, most significant
    first (PIN 0 gives the empty string); at most 10 digits, so the 10-byte array is never overrun -/
theorem C16_digits (pin : Nat) (hpin : pin < 2 ^ 32) :
    pinToBytes pin = .ok ((Spec.digits pin).map UInt8.ofNat) ∧ (Spec.digits pin).length ≤ 10 := by
  refine ⟨pinToBytes_eq pin hpin, (Spec.digits_length_le_iff pin 10).mpr ?_⟩
  omega

theorem C16_digits_zero : pinToBytes 0 = .ok [] := by decide

/-- **layout, refinement**: for every seed the array-shuffling loop of `remap_pin_grid` computes the
    Lehmer-code selection of the Spec — in particular it never indexes out of bounds -/
theorem C16_layout_spec (seed : Nat) :
    remapPinGrid seed = .ok ((Spec.lehmer seed).map UInt8.ofNat) := remapPinGrid_spec seed

/-- **layout, permutation**: for EVERY seed the keypad layout is a permutation of 0..9
    (a selection without replacement of all ten cells, `Spec.pick_perm`; not by enumeration) -/
theorem C16_layout_perm (seed : Nat) :
    ∃ g, remapPinGrid seed = .ok g ∧ g.Perm [0, 1, 2, 3, 4, 5, 6, 7, 8, 9] := by
  refine ⟨_, remapPinGrid_spec seed, ?_⟩
  have : ([0, 1, 2, 3, 4, 5, 6, 7, 8, 9] : Bytes) = (List.range 10).map UInt8.ofNat := by decide
  rw [this]
  exact (Spec.lehmer_perm seed).map _

/-- the Spec layout itself is a permutation of 0..9 and depends on the seed only modulo 10! -/
theorem C16_spec_layout (seed : Nat) :
    (Spec.lehmer seed).Perm [0, 1, 2, 3, 4, 5, 6, 7, 8, 9] ∧
    Spec.lehmer seed = Spec.lehmer (seed % 3628800) :=
  ⟨Spec.lehmer_perm seed, Spec.lehmer_mod seed⟩

/-- **layout, seed modulo 10!**: the layout is determined by the seed modulo 10! = 3 628 800 -/
theorem C16_layout_mod (seed : Nat) : remapPinGrid seed = remapPinGrid (seed % 3628800) := by
  rw [remapPinGrid_spec, remapPinGrid_spec, ← Spec.lehmer_mod]

/-- **hash**: for every `u32` PIN, every seed and all salts, `calculate_hash` returns the Spec value
    `SHA-1(client salt | SHA-1(server salt | ASCII('0' + position of each digit in the layout)))`,
    `none` below 1000 — and never panics: in particular the `unwrap` of the position lookup never
    fires (every digit occurs in a permutation of 0..9) -/
theorem C16_hash (C : Crypto) (pin seed : Nat) (ss cs : Bytes) (hpin : pin < 2 ^ 32) :
    pinCalculateHash C pin seed ss cs = .ok (Spec.pinHash C pin seed ss cs) := by
  obtain ⟨hmin, hmax, hoff, _⟩ := C16_constants
  have hlen10 : (Spec.digits pin).length ≤ 10 := (C16_digits pin hpin).2
  have hlen3 : (Spec.digits pin).length ≤ 3 ↔ pin < 1000 := Spec.digits_length_le_iff pin 3
  unfold pinCalculateHash Spec.pinHash
  simp only [pinToBytes_eq pin hpin, Out.bind_ok, List.length_map, hmin, hmax]
  by_cases hp : pin < 1000
  · have : (Spec.digits pin).length < 4 := by have := hlen3.mpr hp; omega
    simp [this, hp]
  · have h1 : ¬ (Spec.digits pin).length < 4 := fun h => hp (hlen3.mp (by omega))
    have h2 : ¬ (Spec.digits pin).length > 10 := by omega
    simp only [h1, h2, decide_false, Bool.or_self, Bool.false_eq_true, if_false, if_neg hp,
      remapPinGrid_spec, Out.bind_ok]
    have hlook : ∀ d ∈ Spec.digits pin,
        findIdx ((Spec.lehmer seed).map UInt8.ofNat) (UInt8.ofNat d)
          = .ok (UInt8.ofNat ((Spec.lehmer seed).idxOf d)) := by
      intro d hd
      have hd10 := Spec.digits_lt pin d hd
      exact findIdx_map_ofNat _ d
        (fun a ha => by have := (Spec.mem_lehmer seed a).mp ha; omega)
        ((Spec.mem_lehmer seed d).mpr hd10)
    rw [mapOut_map_ok _ _ _ _ hlook]
    simp only [Out.bind_ok, Out.pure_eq, List.map_map, hoff]
    congr 6
    apply List.map_congr_left
    intro d _
    simp only [Function.comp]
    rw [← UInt8.ofNat_add, Nat.add_comm]

/-- **no hash below 1000**: `calculate_hash` returns `None` exactly for PINs of fewer than 4 digits,
    and never panics -/
theorem C16_none_iff (C : Crypto) (pin seed : Nat) (ss cs : Bytes) (hpin : pin < 2 ^ 32) :
    (pinCalculateHash C pin seed ss cs = .ok none ↔ pin < 1000) ∧
    ∃ r, pinCalculateHash C pin seed ss cs = .ok r := by
  rw [C16_hash C pin seed ss cs hpin]
  refine ⟨?_, _, rfl⟩
  unfold Spec.pinHash
  by_cases hp : pin < 1000 <;> simp [hp]

/-- **verification is exact**: `verify_client_pin_hash` never panics and returns `true` exactly
    when a hash exists and equals the presented one -/
theorem C16_verify_iff (C : Crypto) (pin seed : Nat) (ss cs h : Bytes) (hpin : pin < 2 ^ 32) :
    ∃ b, pinVerify C pin seed ss cs h = .ok b ∧
      (b = true ↔ pinCalculateHash C pin seed ss cs = .ok (some h)) := by
  unfold pinVerify
  rw [C16_hash C pin seed ss cs hpin]
  cases hs : Spec.pinHash C pin seed ss cs with
  | none => exact ⟨false, rfl, by simp⟩
  | some h' => exact ⟨h' == h, rfl, by simp⟩

example : remapPinGrid 0 = .ok [0, 1, 2, 3, 4, 5, 6, 7, 8, 9] := by decide
example : remapPinGrid 3628799 = .ok [9, 8, 7, 6, 5, 4, 3, 2, 1, 0] := by decide
example : remapPinGrid 1 = .ok [1, 0, 2, 3, 4, 5, 6, 7, 8, 9] := by decide
example : remapPinGrid (3628800 + 1) = remapPinGrid 1 := by decide
example : Spec.lehmer 1234567 = [7, 3, 6, 9, 5, 0, 1, 8, 2, 4] ∧
    remapPinGrid 1234567 = .ok [7, 3, 6, 9, 5, 0, 1, 8, 2, 4] := by decide
example : Spec.digits 1234 = [1, 2, 3, 4] ∧ Spec.digits 0 = [] ∧ Spec.digits 4294967295 = [4, 2, 9, 4, 9, 6, 7, 2, 9, 5] := by
  decide +kernel
example : pinToBytes 1234 = .ok [1, 2, 3, 4] ∧ pinToBytes 4294967295 = .ok [4, 2, 9, 4, 9, 6, 7, 2, 9, 5] := by
  decide
example : (1234 : Nat) < 2 ^ 32 ∧ ¬ (1234 : Nat) < 1000 := by decide
/-- the remapped ASCII string for PIN 1234 under the reversed keypad (seed 10!-1): digit d sits at
    position 9-d -/
example : (Spec.digits 1234).map (fun d => UInt8.ofNat (0x30 + (Spec.lehmer 3628799).idxOf d))
    = [0x38, 0x37, 0x36, 0x35] := by decide +kernel
example (C : Crypto) (ss cs : Bytes) :
    pinCalculateHash C 999 5 ss cs = .ok none ∧ pinVerify C 999 5 ss cs [] = .ok false := by
  have h := C16_hash C 999 5 ss cs (by decide)
  refine ⟨h, ?_⟩
  unfold pinVerify; rw [h]; rfl
example (C : Crypto) (ss cs : Bytes) :
    pinCalculateHash C 1000 0 ss cs
      = .ok (some (C.sha1 (cs ++ C.sha1 (ss ++ [0x31, 0x30, 0x30, 0x30])))) := by
  rw [C16_hash C 1000 0 ss cs (by decide)]
  have : (Spec.digits 1000).map (fun d => UInt8.ofNat (0x30 + (Spec.lehmer 0).idxOf d))
      = [0x31, 0x30, 0x30, 0x30] := by decide +kernel
  simp only [Spec.pinHash, this]
  rfl

end WowSrp
