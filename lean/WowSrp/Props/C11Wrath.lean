/-
C11 (continued) — the Wrath combined objects `ClientCrypto` / `ServerCrypto`
(src/wrath_header/mod.rs): every facade method is its half's method, `split` hands out the two
fields, and a failed header read through the facade leaves the whole combined object untouched.
How to read an equation `facade = (half call).mapOk f`: Lemmas/MapOk.lean.
-/
import WowSrp.Props.C11
namespace WowSrp

/-- **`ClientCrypto` facade = halves.** For each delegating method: the facade's outcome is the half's
    outcome (panic ↦ the same panic) with the new half put back into the *same* combined object; the
    returned bytes / header / attempt result are the half's. For the Write/Read wrappers the `IoRes`
    carries `{ c with … := r.state }`, the same `io::Result` and the same remaining script / sink. -/
theorem C11_wrath_facade_eq_half_client (c : WClientCrypto) :
    (∀ d, c.encryptData d =
      (c.encrypt.apply d).mapOk fun p => ({ c with encrypt := p.1 }, p.2)) ∧
    (∀ d, c.decryptData d =
      (c.decrypt.decrypt d).mapOk fun p => ({ c with decrypt := p.1 }, p.2)) ∧
    (∀ size opcode, c.encryptClientHeader size opcode =
      (wClientEncryptHeader c.encrypt size opcode).mapOk fun p => ({ c with encrypt := p.1 }, p.2)) ∧
    (∀ size opcode script, c.writeClientHeader size opcode script =
      (wClientWriteHeader c.encrypt size opcode script).mapOk fun r =>
        ⟨{ c with encrypt := r.state }, r.result, r.rest⟩) ∧
    (∀ buf, c.attempt buf =
      (c.decrypt.attempt buf).mapOk fun p => ({ c with decrypt := p.1 }, p.2)) ∧
    (∀ byte, c.decryptLarge byte =
      (c.decrypt.decryptLarge byte).mapOk fun p => ({ c with decrypt := p.1 }, p.2)) ∧
    (∀ script, c.readServerHeader script =
      (c.decrypt.readServerHeader script).mapOk fun r =>
        ⟨{ c with decrypt := r.state }, r.result, r.rest⟩) :=
  ⟨c.encryptData_eq, c.decryptData_eq, c.encryptClientHeader_eq, c.writeClientHeader_eq, c.attempt_eq,
    c.decryptLarge_eq, c.readServerHeader_eq⟩

/-- **`ServerCrypto` facade = halves**, likewise -/
theorem C11_wrath_facade_eq_half_server (c : WServerCrypto) :
    (∀ d, c.encryptData d =
      (c.encrypt.encrypt d).mapOk fun p => ({ c with encrypt := p.1 }, p.2)) ∧
    (∀ d, c.decryptData d =
      (c.decrypt.apply d).mapOk fun p => ({ c with decrypt := p.1 }, p.2)) ∧
    (∀ size opcode, c.encryptServerHeader size opcode =
      (c.encrypt.encryptServerHeader size opcode).mapOk fun p => ({ c with encrypt := p.1 }, p.2)) ∧
    (∀ size opcode script, c.writeServerHeader size opcode script =
      (c.encrypt.writeServerHeader size opcode script).mapOk fun r =>
        ⟨{ c with encrypt := r.state }, r.result, r.rest⟩) ∧
    (∀ d, c.decryptClientHeader d =
      (wServerDecryptHeader c.decrypt d).mapOk fun p => ({ c with decrypt := p.1 }, p.2)) ∧
    (∀ script, c.readClientHeader script =
      (wServerReadHeader c.decrypt script).mapOk fun r =>
        ⟨{ c with decrypt := r.state }, r.result, r.rest⟩) :=
  ⟨c.encryptData_eq, c.decryptData_eq, c.encryptServerHeader_eq, c.writeServerHeader_eq,
    c.decryptClientHeader_eq, c.readClientHeader_eq⟩

/-- both objects at once -/
theorem C11_wrath_facade_eq_half (c : WClientCrypto) (s : WServerCrypto) :
    ((∀ d, c.encryptData d =
        (c.encrypt.apply d).mapOk fun p => ({ c with encrypt := p.1 }, p.2)) ∧
     (∀ d, c.decryptData d =
        (c.decrypt.decrypt d).mapOk fun p => ({ c with decrypt := p.1 }, p.2)) ∧
     (∀ size opcode, c.encryptClientHeader size opcode =
        (wClientEncryptHeader c.encrypt size opcode).mapOk fun p => ({ c with encrypt := p.1 }, p.2)) ∧
     (∀ size opcode script, c.writeClientHeader size opcode script =
        (wClientWriteHeader c.encrypt size opcode script).mapOk fun r =>
          ⟨{ c with encrypt := r.state }, r.result, r.rest⟩) ∧
     (∀ buf, c.attempt buf =
        (c.decrypt.attempt buf).mapOk fun p => ({ c with decrypt := p.1 }, p.2)) ∧
     (∀ byte, c.decryptLarge byte =
        (c.decrypt.decryptLarge byte).mapOk fun p => ({ c with decrypt := p.1 }, p.2)) ∧
     (∀ script, c.readServerHeader script =
        (c.decrypt.readServerHeader script).mapOk fun r =>
          ⟨{ c with decrypt := r.state }, r.result, r.rest⟩)) ∧
    ((∀ d, s.encryptData d =
        (s.encrypt.encrypt d).mapOk fun p => ({ s with encrypt := p.1 }, p.2)) ∧
     (∀ d, s.decryptData d =
        (s.decrypt.apply d).mapOk fun p => ({ s with decrypt := p.1 }, p.2)) ∧
     (∀ size opcode, s.encryptServerHeader size opcode =
        (s.encrypt.encryptServerHeader size opcode).mapOk fun p => ({ s with encrypt := p.1 }, p.2)) ∧
     (∀ size opcode script, s.writeServerHeader size opcode script =
        (s.encrypt.writeServerHeader size opcode script).mapOk fun r =>
          ⟨{ s with encrypt := r.state }, r.result, r.rest⟩) ∧
     (∀ d, s.decryptClientHeader d =
        (wServerDecryptHeader s.decrypt d).mapOk fun p => ({ s with decrypt := p.1 }, p.2)) ∧
     (∀ script, s.readClientHeader script =
        (wServerReadHeader s.decrypt script).mapOk fun r =>
          ⟨{ s with decrypt := r.state }, r.result, r.rest⟩)) :=
  ⟨C11_wrath_facade_eq_half_client c, C11_wrath_facade_eq_half_server s⟩

/-- **the same in "returns … ↔ the half returns …" / "panics ↔ the half panics" form**, for the raw
    data methods of both objects (the other methods follow from `C11_wrath_facade_eq_half` and
    `Out.mapOk_eq_ok_iff` / `Out.mapOk_eq_panic_iff` in exactly the same way) -/
theorem C11_wrath_facade_eq_half_iff (c c' : WClientCrypto) (s s' : WServerCrypto) (d out : Bytes)
    (p : String) :
    (c.encryptData d = .ok (c', out) ↔
      ∃ r, c.encrypt.apply d = .ok (r, out) ∧ c' = { c with encrypt := r }) ∧
    (c.decryptData d = .ok (c', out) ↔
      ∃ r, c.decrypt.decrypt d = .ok (r, out) ∧ c' = { c with decrypt := r }) ∧
    (s.encryptData d = .ok (s', out) ↔
      ∃ r, s.encrypt.encrypt d = .ok (r, out) ∧ s' = { s with encrypt := r }) ∧
    (s.decryptData d = .ok (s', out) ↔
      ∃ r, s.decrypt.apply d = .ok (r, out) ∧ s' = { s with decrypt := r }) ∧
    (c.encryptData d = .panic p ↔ c.encrypt.apply d = .panic p) ∧
    (c.decryptData d = .panic p ↔ c.decrypt.decrypt d = .panic p) ∧
    (s.encryptData d = .panic p ↔ s.encrypt.encrypt d = .panic p) ∧
    (s.decryptData d = .panic p ↔ s.decrypt.apply d = .panic p) := by
  rw [c.encryptData_eq, c.decryptData_eq, s.encryptData_eq, s.decryptData_eq]
  exact ⟨Out.mapOk_pair_eq_ok_iff _ (fun x => { c with encrypt := x }) _ _,
    Out.mapOk_pair_eq_ok_iff _ (fun x => { c with decrypt := x }) _ _,
    Out.mapOk_pair_eq_ok_iff _ (fun x => { s with encrypt := x }) _ _,
    Out.mapOk_pair_eq_ok_iff _ (fun x => { s with decrypt := x }) _ _,
    Out.mapOk_eq_panic_iff .., Out.mapOk_eq_panic_iff .., Out.mapOk_eq_panic_iff .., Out.mapOk_eq_panic_iff ..⟩

/-- **the I/O wrappers in the same form**: the facade returns an `IoRes` iff the half's wrapper
    returns one with the same `io::Result` and the same remaining script / sink, and the facade's
    state is the old combined object with only that half replaced -/
theorem C11_wrath_facade_eq_half_io_iff (c : WClientCrypto) (s : WServerCrypto) (size opcode : Nat)
    (w : List WEv) (script : List REv) :
    (∀ R, c.writeClientHeader size opcode w = .ok R ↔
      ∃ r, wClientWriteHeader c.encrypt size opcode w = .ok r ∧
        R.state = { c with encrypt := r.state } ∧ R.result = r.result ∧ R.rest = r.rest) ∧
    (∀ R, c.readServerHeader script = .ok R ↔
      ∃ r, c.decrypt.readServerHeader script = .ok r ∧
        R.state = { c with decrypt := r.state } ∧ R.result = r.result ∧ R.rest = r.rest) ∧
    (∀ R, s.writeServerHeader size opcode w = .ok R ↔
      ∃ r, s.encrypt.writeServerHeader size opcode w = .ok r ∧
        R.state = { s with encrypt := r.state } ∧ R.result = r.result ∧ R.rest = r.rest) ∧
    (∀ R, s.readClientHeader script = .ok R ↔
      ∃ r, wServerReadHeader s.decrypt script = .ok r ∧
        R.state = { s with decrypt := r.state } ∧ R.result = r.result ∧ R.rest = r.rest) := by
  rw [c.writeClientHeader_eq, c.readServerHeader_eq, s.writeServerHeader_eq, s.readClientHeader_eq]
  exact ⟨fun _ => Out.mapOk_io_eq_ok_iff _ (fun x => { c with encrypt := x }) _,
    fun _ => Out.mapOk_io_eq_ok_iff _ (fun x => { c with decrypt := x }) _,
    fun _ => Out.mapOk_io_eq_ok_iff _ (fun x => { s with encrypt := x }) _,
    fun _ => Out.mapOk_io_eq_ok_iff _ (fun x => { s with decrypt := x }) _⟩

/-- non-vacuity of the panic clauses: a half whose RC4 state array is too short panics, and the
    facade reports exactly that panic -/
example : ∃ p, (WClientCrypto.mk ⟨⟨#[], 0, 0⟩, []⟩ ⟨#[], 0, 0⟩).encryptData [1] = .panic p ∧
    (Rc4.mk #[] 0 0).apply [1] = .panic p := ⟨_, rfl, rfl⟩

/-- **split halves are literally the two fields** of both Wrath objects, so using a split half *is*
    using the half the facade delegates to -/
theorem C11_wrath_split_is_fields (c : WClientCrypto) (s : WServerCrypto) :
    c.split = (c.encrypt, c.decrypt) ∧ s.split = (s.encrypt, s.decrypt) := ⟨rfl, rfl⟩

/-- **a failed read through the facade leaves the whole combined object as it was**: if `read_exact`
    fails within the first 4 bytes (`ClientCrypto::read_and_decrypt_server_header`) / within the 6
    bytes (`ServerCrypto::read_and_decrypt_client_header`) — whatever the reason, wherever — the
    facade reports the reader's error, has consumed the script as far as `read_exact` did, and returns
    the *same* object `c` (both halves: encrypter, RC4 decrypter state and saved 4-byte header) -/
theorem C11_wrath_failed_read_facade (script rest : List REv) (k : IoKind) :
    (∀ c : WClientCrypto, readExact script 4 [] = (.error k, rest) →
      c.readServerHeader script = .ok ⟨c, .error k, rest⟩) ∧
    (∀ s : WServerCrypto, readExact script 6 [] = (.error k, rest) →
      s.readClientHeader script = .ok ⟨s, .error k, rest⟩) :=
  ⟨fun c hr => by rw [c.readServerHeader_eq, C11_failed_read_wrath_client c.decrypt script rest k hr]; rfl,
   fun s hr => by rw [s.readClientHeader_eq, C11_failed_read_wrath_server s.decrypt script rest k hr]; rfl⟩

/-- **injected at every byte offset, for every error kind**: the reader delivers fewer than 4 / 6
    bytes (fragmented and interrupted at will: `pre` is a benign prefix), then fails with `ev`; the
    facade reports that event's kind, the combined object is unchanged, and the script has been
    consumed exactly up to the failing event -/
theorem C11_wrath_failed_read_facade_at_offset (pre tail : List REv) (ev : REv) (k : IoKind)
    (hb : ∀ x ∈ pre, x.benign = true) (hk : ev.failKind = some k) :
    (∀ c : WClientCrypto, (dataOf pre).length < 4 →
      c.readServerHeader (pre ++ ev :: tail) = .ok ⟨c, .error k, tail⟩) ∧
    (∀ s : WServerCrypto, (dataOf pre).length < 6 →
      s.readClientHeader (pre ++ ev :: tail) = .ok ⟨s, .error k, tail⟩) :=
  ⟨fun c hn => (C11_wrath_failed_read_facade _ _ k).1 c (readExact_fail_stop pre tail ev 4 k [] hb hn hk),
   fun s hn => (C11_wrath_failed_read_facade _ _ k).2 s (readExact_fail_stop pre tail ev 6 k [] hb hn hk)⟩

/-- non-vacuity: three bytes in two fragments with an interruption in between, then error kind 7 -/
example (c : WClientCrypto) (s : WServerCrypto) :
    c.readServerHeader [.data [1], .interrupted, .data [2, 3], .err 7, .data [4, 5]]
      = .ok ⟨c, .error 7, [.data [4, 5]]⟩ ∧
    s.readClientHeader [.data [1], .interrupted, .data [2, 3], .err 7, .data [4, 5]]
      = .ok ⟨s, .error 7, [.data [4, 5]]⟩ :=
  have h := C11_wrath_failed_read_facade_at_offset [.data [1], .interrupted, .data [2, 3]] [.data [4, 5]]
    (.err 7) 7 (by decide) rfl
  ⟨h.1 c (by decide), h.2 s (by decide)⟩

end WowSrp
