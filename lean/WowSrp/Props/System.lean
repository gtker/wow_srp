/-
System — statements about a whole connection, put together from the property theorems and the lemma libraries:

  an honest client and server that complete the login (C01), then the world login (C06), hold header
  crypto objects built from the same session key and can exchange headers in both directions for as
  long as they like, for each of the three expansions; and the client can reconnect any number of times (C05).

Where the parts come from:
* the login: `C01_honest_steps`, `C01_login_exact`, `C01_login_agrees`. The session key it produces is always 40
  bytes long, which is `HeaderKeyOk` for Vanilla (TBC asks `C.WF`, Wrath nothing); the `SrpServer` / `SrpClient`
  values of the run carry the same username text and session key (`System_login_objects`), exactly the
  hypotheses of `C05_legit_run` and of `C06_pairing`;
* Vanilla / TBC headers: not from the fresh-pair round trips of C07 / C08, but from the closed forms of a chunked
  call (`Half.runChunks_encrypt_eq`, `Spec.Stream.decrypt_encrypt`, Lemmas/HeaderSpec.lean), for ANY two objects
  whose halves are in equal well-formed states per direction, anywhere in a connection (`HeadersFlow.of_equal`,
  `HeadersDuplex.of_equal`); the interleaving of the two directions is `C12_interleaving`;
* Wrath: `Rc4.flow` / `WServerEnc.flow` (Lemmas/Rc4.lean), `C09_no_panic`, `C09_involution`,
  `C12_interleaving_wrath_client/_server`, `C10_sequence`.

All theorems are for an arbitrary `C : Crypto` (`C.WF`, `C.XorHashOk` as in C01); no property of any hash
function is assumed. Props.C07 and Props.C08 are imported although nothing here quotes them: that this module
builds shows that all eight property modules load into one environment without a name clash.
-/
import WowSrp.Lemmas.System
import WowSrp.Lemmas.HeaderSpec
import WowSrp.Props.C01
import WowSrp.Props.C05
import WowSrp.Props.C06
import WowSrp.Props.C07
import WowSrp.Props.C08
import WowSrp.Props.C09
import WowSrp.Props.C10
import WowSrp.Props.C12
namespace WowSrp

/-- **the objects the login leaves behind.** Under the hypotheses of `C01_login_agrees` (credentials
    accepted by `NormalizedString::new`, typed by the client in any letter case, `B ≠ 0 mod N` — the
    documented `into_proof` panic) `runLogin` succeeds with one 40-byte key `K` on both sides, and the
    values *inside* that run are: an `SrpProof` and an `SrpClientChallenge` such that `into_server`
    accepted the client's M1 and handed out `SrpServer { username: U, session_key: K,
    reconnect_challenge_data: challenge }`, and `verify_server_proof` accepted M2 and handed out
    `SrpClient { username: U, session_key: K }` — the same normalised username `U` and the same `K`. -/
theorem System_login_objects (C : Crypto) (hC : C.WF) (hx : C.XorHashOk) (be : Backend)
    (us ps uc pc : List Char) (viaStorage : Bool) (salt b a challenge : Bytes) (U P : NStr)
    (hU : NStr.new us = .ok U) (hP : NStr.new ps = .ok P)
    (hu : SameUpToLetterCase us uc) (hp : SameUpToLetterCase ps pc)
    (hB : (3 * (7 ^ Spec.x C U.asRef P.asRef salt % Spec.N) + 7 ^ ofLE b % Spec.N) % Spec.N ≠ 0) :
    ∃ (K A B M1 M2 vbytes : Bytes) (proof : SrpProof) (cc : SrpClientChallenge)
      (srv : SrpServer) (cl : SrpClient),
      runLogin C be us ps uc pc viaStorage salt b a challenge = .ok K K A B M1 M2 vbytes ∧
      K.length = 40 ∧
      proof.intoServer C be A M1 challenge = .ok (.ok (srv, M2)) ∧
      cc.verifyServerProof C M2 = .ok cl ∧
      srv = ⟨U, K, challenge⟩ ∧ cl = ⟨U, K⟩ := by
  obtain ⟨_, _, hsrv, hcl⟩ := C01_honest_steps C hC hx be U P salt b a challenge hB
  exact ⟨_, _, _, _, _, _, _, _, _, _,
    C01_login_exact C hC hx be us ps uc pc viaStorage salt b a challenge U P hU hP hu hp hB,
    Spec.interleave_length C hC _, hsrv, hcl, rfl, rfl⟩

/-- **one direction of a Vanilla / TBC connection works forever.** `snd` is the combined object of
    the sending side, `rcv` that of the receiving side. For every stream of bytes, every partition of
    it into `HeaderCrypto::encrypt` calls on the sender and every (independent) partition of the
    ciphertext into `HeaderCrypto::decrypt` calls on the receiver:
    * the sender does not panic and emits as many bytes as it was given; its *decrypting* half is
      untouched (so the opposite direction is not disturbed);
    * the receiver does not panic and recovers exactly the sender's bytes; its *encrypting* half is
      untouched; and its decrypting half ends in the very state of the sender's encrypting half — so
      whatever is sent next is recovered as well. -/
def HeadersFlow (e : Exp) (snd rcv : HeaderCrypto) : Prop :=
  ∀ sendChunks recvChunks : List Bytes,
    ∃ snd' cipher, runChunks (HeaderCrypto.encryptData e) snd sendChunks = .ok (snd', cipher) ∧
      cipher.length = sendChunks.flatten.length ∧ snd'.decrypt = snd.decrypt ∧
      (recvChunks.flatten = cipher →
        ∃ rcv', runChunks (HeaderCrypto.decryptData e) rcv recvChunks = .ok (rcv', sendChunks.flatten) ∧
          rcv'.encrypt = rcv.encrypt ∧ rcv'.decrypt = snd'.encrypt)

/-- **a Vanilla / TBC connection is full duplex.** The client runs any history `opsC` and the server
    any history `opsS` over {encrypt a chunk, decrypt a chunk, split, clone, unsplit} (C12), interleaved
    in any way. Neither side panics — whatever bytes it is handed to decrypt. If the server decrypts
    what the client emitted (in any chunking, at any points of its own history) it reads exactly the
    bytes the client encrypted, and its decrypting half ends in the state of the client's encrypting
    half; likewise server → client. Neither direction depends on the other. -/
def HeadersDuplex (e : Exp) (cl sv : HeaderCrypto) : Prop :=
  ∀ opsC opsS : List Op,
    ∃ oC oS eoC doC eoS doS,
      runOps e (.comb cl) opsC = .ok (oC, eoC, doC) ∧ runOps e (.comb sv) opsS = .ok (oS, eoS, doS) ∧
      (decChunks opsS = eoC → doS = encChunks opsC ∧ oS.decHalf = oC.encHalf) ∧
      (decChunks opsC = eoS → doC = encChunks opsS ∧ oC.decHalf = oS.encHalf)

/-- what C07 / C08 say of the fresh pair of either expansion: the fresh encrypter and decrypter are total,
    and the fresh pair round-trips -/
structure FreshPairOk (C : Crypto) (e : Exp) (K : Bytes) : Prop where
  encTotal : ∀ xs, ∃ h' out, (Half.newEnc C e K).encrypt e xs = .ok (h', out)
  decTotal : ∀ xs, ∃ h' out, (Half.newDec C e K).decrypt e xs = .ok (h', out)
  roundtrip : ∀ (sendChunks recvChunks : List Bytes) (cipher : Bytes) (e' : Half),
    runChunks (Half.encrypt e) (Half.newEnc C e K) sendChunks = .ok (e', cipher) →
    recvChunks.flatten = cipher →
    ∃ d', runChunks (Half.decrypt e) (Half.newDec C e K) recvChunks = .ok (d', sendChunks.flatten) ∧
      d'.key = e'.key ∧ d'.index = e'.index ∧ d'.prev = e'.prev

theorem FreshPairOk.of_keyOk (C : Crypto) (e : Exp) (K : Bytes) (hK : HeaderKeyOk C e K) : FreshPairOk C e K where
  encTotal xs := ⟨_, _, Half.encrypt_eq e _ (Half.newEnc_WF C e K hK) xs⟩
  decTotal xs := ⟨_, _, Half.decrypt_eq e _ (Half.newDec_eq_newEnc C e K ▸ Half.newEnc_WF C e K hK) xs⟩
  roundtrip := Half.roundtrip_fresh C e K

theorem FreshPairOk.vanilla (C : Crypto) (K : Bytes) (hK : K.length = 40) : FreshPairOk C .vanilla K :=
  FreshPairOk.of_keyOk C .vanilla K hK

/-- one direction between two objects whose sending and receiving halves are in the same state `a`
    (anywhere in a connection; the other two halves do not matter) -/
theorem HeadersFlow.of_equal (e : Exp) (a x y : Half) (ha : a.WF e) : HeadersFlow e ⟨x, a⟩ ⟨a, y⟩ := by
  intro sendChunks recvChunks
  refine ⟨_, _, (HeaderCrypto.runChunks_encryptData ..).trans (Out.mapOk_ok _ (Half.runChunks_encrypt_eq e a ha _)),
    Spec.Stream.encrypt_length .., rfl,
    fun hpart => ⟨⟨Half.ofStream (a.abs.encrypt sendChunks.flatten).1, y⟩, ?_, rfl, rfl⟩⟩
  rw [HeaderCrypto.runChunks_decryptData, Half.runChunks_decrypt_eq e a ha, hpart, Spec.Stream.decrypt_encrypt]
  rfl

/-- full duplex between two objects whose halves are in the same state per direction: `a` client → server,
    `b` server → client -/
theorem HeadersDuplex.of_equal (e : Exp) (a b : Half) (ha : a.WF e) (hb : b.WF e) :
    HeadersDuplex e ⟨b, a⟩ ⟨a, b⟩ := by
  intro opsC opsS
  -- either side: each direction is one call on all its chunks (C12), known in closed form
  obtain ⟨oC, hrunC, hoC1, hoC2⟩ := (C12_interleaving e (.comb ⟨b, a⟩) opsC _ _ _ _).mpr
    ⟨Half.encrypt_eq e a ha _, Half.decrypt_eq e b hb _⟩
  obtain ⟨oS, hrunS, hoS1, hoS2⟩ := (C12_interleaving e (.comb ⟨a, b⟩) opsS _ _ _ _).mpr
    ⟨Half.encrypt_eq e b hb _, Half.decrypt_eq e a ha _⟩
  refine ⟨oC, oS, _, _, _, _, hrunC, hrunS, fun hwire => ?_, fun hwire => ?_⟩
  · rw [hoS2, hoC1, hwire, Spec.Stream.decrypt_encrypt]; exact ⟨rfl, rfl⟩
  · rw [hoC2, hoS1, hwire, Spec.Stream.decrypt_encrypt]; exact ⟨rfl, rfl⟩

/-- **Vanilla and TBC headers round-trip in both directions, forever.** Both sides hold
    `HeaderCrypto::new(K)` (what the world login hands out, `C06_pairing`); for Vanilla `K` is 40 bytes
    long — which is what the login guarantees —, for TBC `K` is any key and only the 20-byte output
    length of HMAC-SHA1 is used (`C.WF`): that is `HeaderKeyOk`. Then either direction works for every
    stream and every pair of partitions into calls (`HeadersFlow`; the two directions are the same
    statement here), neither direction touches the other's half, and the same holds for every
    interleaving of encrypt / decrypt / split / clone / unsplit on the two sides (`HeadersDuplex`). -/
theorem System_headers_roundtrip (C : Crypto) (e : Exp) (K : Bytes) (hK : HeaderKeyOk C e K) :
    HeadersFlow e (HeaderCrypto.new C e K) (HeaderCrypto.new C e K) ∧
    HeadersDuplex e (HeaderCrypto.new C e K) (HeaderCrypto.new C e K) := by
  have hw := Half.newEnc_WF C e K hK
  -- the two separately coded constructors build the same half
  rw [show HeaderCrypto.new C e K = ⟨Half.newEnc C e K, Half.newEnc C e K⟩ from
    congrArg (HeaderCrypto.mk · _) (Half.newDec_eq_newEnc C e K)]
  exact ⟨.of_equal e _ _ _ hw, .of_equal e _ _ hw hw⟩

/-- **Wrath, client → server, forever**: for every stream, every partition into
    `ClientEncrypterHalf::encrypt` calls and every (independent) partition of the ciphertext into
    `ServerDecrypterHalf::decrypt` calls, neither side panics, the server recovers exactly the client's
    bytes, and the two RC4 states are equal again afterwards -/
def WrathFlowC2S (cc : WClientCrypto) (sc : WServerCrypto) : Prop :=
  ∀ sendChunks recvChunks : List Bytes,
    ∃ e' cipher, runChunks Rc4.apply cc.encrypt sendChunks = .ok (e', cipher) ∧
      cipher.length = sendChunks.flatten.length ∧
      (recvChunks.flatten = cipher →
        runChunks Rc4.apply sc.decrypt recvChunks = .ok (e', sendChunks.flatten))

/-- **Wrath, server → client, forever**: the same through `ServerEncrypterHalf::encrypt` /
    `ClientDecrypterHalf::decrypt` (which carry a header buffer next to the RC4 state and leave it alone) -/
def WrathFlowS2C (sc : WServerCrypto) (cc : WClientCrypto) : Prop :=
  ∀ sendChunks recvChunks : List Bytes,
    ∃ s' cipher, runChunks WServerEnc.encrypt sc.encrypt sendChunks = .ok (s', cipher) ∧
      cipher.length = sendChunks.flatten.length ∧
      (recvChunks.flatten = cipher →
        ∃ c', runChunks WClientDec.decrypt cc.decrypt recvChunks = .ok (c', sendChunks.flatten) ∧
          c'.rc4 = s'.rc4 ∧ c'.header = cc.decrypt.header ∧ s'.serverHeader = sc.encrypt.serverHeader)

/-- **a Wrath connection is full duplex**: any history of {encrypt chunk, decrypt chunk, …} on the
    client's pair and any history on the server's pair; neither panics; each side reads exactly what
    the other wrote, whatever the interleaving and chunking, and the RC4 states of each direction
    agree afterwards -/
def WrathDuplex (cc : WClientCrypto) (sc : WServerCrypto) : Prop :=
  ∀ opsC opsS : List Op,
    ∃ cc' sc' eoC doC eoS doS,
      opsRun wClientStep cc opsC = .ok (cc', eoC, doC) ∧ opsRun wServerStep sc opsS = .ok (sc', eoS, doS) ∧
      (decChunks opsS = eoC → doS = encChunks opsC ∧ sc'.decrypt = cc'.encrypt) ∧
      (decChunks opsC = eoS → doC = encChunks opsS ∧ cc'.decrypt.rc4 = sc'.encrypt.rc4)

/-- **Wrath: bytes and server headers in both directions, forever.** `cc` and `sc` are the objects the Wrath
    world login hands out (`ClientCrypto::new(K)`, `ServerCrypto::new(K)`, `C06_pairing_wrath`); every
    `Crypto`, every session key, no further hypothesis. Both directions flow, full duplex; and for every
    finite list of server headers (size ≤ 0x7FFFFF — the 23 bits the wire format carries —, opcode <
    65536; 4-byte and 5-byte headers mixed in any order) the server's `encrypt_server_header` emits them
    all without panic, and the client decodes the concatenated output to exactly that list through
    `read_and_decrypt_server_header` as well as through `attempt_decrypt_server_header` +
    `decrypt_large_server_header`; nothing is left unread, both paths end in the same client state, and
    client RC4 = server RC4 afterwards. -/
theorem System_wrath (C : Crypto) (K : Bytes) (cc : WClientCrypto) (sc : WServerCrypto)
    (hcc : WClientCrypto.new C K = .ok cc) (hsc : WServerCrypto.new C K = .ok sc) :
    WrathFlowC2S cc sc ∧ WrathFlowS2C sc cc ∧ WrathDuplex cc sc ∧
    ∀ hdrs : List (Nat × Nat), (∀ h ∈ hdrs, h.1 ≤ 0x7FFFFF ∧ h.2 < 65536) →
      ∃ s' wire c', serverEmitAll sc.encrypt hdrs = .ok (s', wire) ∧ c'.rc4 = s'.rc4 ∧
        clientReadAll hdrs.length cc.decrypt (dataScript wire []) = .ok (c', hdrs, []) ∧
        clientTwoStepAll hdrs.length cc.decrypt wire = .ok (c', hdrs, []) := by
  rw [WClientCrypto.new_eq] at hcc; rw [WServerCrypto.new_eq] at hsc
  obtain rfl := Out.ok.inj hcc
  obtain rfl := Out.ok.inj hsc
  have inv1 := wrathGen_inv C Gen.wrathS K
  have inv2 := wrathGen_inv C Gen.wrathR K
  refine ⟨Rc4.flow _ inv1, WServerEnc.flow _ _ rfl inv2, fun opsC opsS => ?_, fun hdrs hb => ?_⟩
  · obtain ⟨reC, eoC, hEC, _, _⟩ := C09_no_panic _ inv1 (encChunks opsC)
    obtain ⟨rdC, doC, hDC, _, _⟩ := C09_no_panic _ inv2 (decChunks opsC)
    obtain ⟨reS, eoS, hES, _, _⟩ := C09_no_panic _ inv2 (encChunks opsS)
    obtain ⟨rdS, doS, hDS, _, _⟩ := C09_no_panic _ inv1 (decChunks opsS)
    obtain ⟨cc', hrunC, hc1, hc2⟩ :=
      (C12_interleaving_wrath_client ⟨⟨_, _⟩, _⟩ opsC eoC doC reC rdC).mpr ⟨hEC, hDC⟩
    obtain ⟨sc', hrunS, hs1, hs2⟩ :=
      (C12_interleaving_wrath_server ⟨_, ⟨_, _⟩⟩ opsS eoS doS reS rdS).mpr ⟨hES, hDS⟩
    refine ⟨cc', sc', eoC, doC, eoS, doS, hrunC, hrunS, fun hwire => ?_, fun hwire => ?_⟩
    · rw [hwire, C09_involution _ reC _ _ hEC] at hDS
      obtain ⟨rfl, rfl⟩ := Prod.mk.inj (Out.ok.inj hDS)
      exact ⟨rfl, hs2.trans hc1.symm⟩
    · rw [hwire, C09_involution _ reS _ _ hES] at hDC
      obtain ⟨rfl, rfl⟩ := Prod.mk.inj (Out.ok.inj hDC)
      exact ⟨rfl, hc2.trans hs1.symm⟩
  · obtain ⟨s', wire, hall, _, _, c', h⟩ := C10_sequence hdrs hb ⟨_, _⟩ ⟨_, _⟩ rfl inv2
    exact ⟨s', wire, c', hall, h⟩

/-- the two directions share nothing (quoted from C12 for the objects above): a call on one half of a
    pair returns a pair whose other half is the old one — Vanilla/TBC facade and both Wrath pairs -/
theorem System_directions_independent (e : Exp) (hc hc' : HeaderCrypto) :
    ((∀ d out, hc.encryptData e d = .ok (hc', out) → hc'.decrypt = hc.decrypt) ∧
     (∀ d out, hc.decryptData e d = .ok (hc', out) → hc'.encrypt = hc.encrypt)) ∧
    ((∀ (c c' : WClientCrypto) d eo dout, wClientStep c (.enc d) = .ok (c', eo, dout) → c'.decrypt = c.decrypt) ∧
     (∀ (c c' : WClientCrypto) d eo dout, wClientStep c (.dec d) = .ok (c', eo, dout) → c'.encrypt = c.encrypt) ∧
     (∀ (c c' : WServerCrypto) d eo dout, wServerStep c (.enc d) = .ok (c', eo, dout) → c'.decrypt = c.decrypt) ∧
     (∀ (c c' : WServerCrypto) d eo dout, wServerStep c (.dec d) = .ok (c', eo, dout) → c'.encrypt = c.encrypt)) :=
  ⟨⟨(C12_no_shared_state e hc hc').1, (C12_no_shared_state e hc hc').2.2.2.1⟩, C12_no_shared_state_wrath⟩

/-- **after the login the client can reconnect any number of times.** Under the hypotheses of
    `C01_login_agrees`, let `srv` and `cl` be the `SrpServer` and `SrpClient` the login produced
    (`System_login_objects`). After *any* earlier history `earlier` of reconnect attempts against `srv`
    (by anyone, accepted or refused), every run of honest reconnects — the client answers the
    challenge on offer with client challenge bytes of its own choice, the server draws a new challenge
    after each attempt — is accepted every time. -/
theorem System_reconnect (C : Crypto) (hC : C.WF) (hx : C.XorHashOk) (be : Backend)
    (us ps uc pc : List Char) (viaStorage : Bool) (salt b a challenge : Bytes) (U P : NStr)
    (hU : NStr.new us = .ok U) (hP : NStr.new ps = .ok P)
    (hu : SameUpToLetterCase us uc) (hp : SameUpToLetterCase ps pc)
    (hB : (3 * (7 ^ Spec.x C U.asRef P.asRef salt % Spec.N) + 7 ^ ofLE b % Spec.N) % Spec.N ≠ 0) :
    ∃ (K A B M1 M2 vbytes : Bytes) (proof : SrpProof) (cc : SrpClientChallenge)
      (srv : SrpServer) (cl : SrpClient),
      runLogin C be us ps uc pc viaStorage salt b a challenge = .ok K K A B M1 M2 vbytes ∧
      proof.intoServer C be A M1 challenge = .ok (.ok (srv, M2)) ∧
      cc.verifyServerProof C M2 = .ok cl ∧
      cl.username.asRef = srv.username.asRef ∧ cl.sessionKey = srv.sessionKey ∧
      srv.reconnectChallengeData = challenge ∧
      ∀ (earlier : List Attempt) (rounds : List (Bytes × Bytes)),
        runHistory C (stateAfter C srv earlier)
          (List.zipWith (fun (r : Bytes × Bytes) (ch : Bytes) =>
              ((cl.calculateReconnectValues C ch r.1).1, (cl.calculateReconnectValues C ch r.1).2, r.2))
            rounds ((stateAfter C srv earlier).reconnectChallengeData :: rounds.map (·.2)))
          = List.replicate rounds.length true := by
  obtain ⟨K, A, B, M1, M2, vbytes, proof, cc, srv, cl, hrun, _, hsrv, hcl, rfl, rfl⟩ :=
    System_login_objects C hC hx be us ps uc pc viaStorage salt b a challenge U P hU hP hu hp hB
  refine ⟨K, A, B, M1, M2, vbytes, proof, cc, _, _, hrun, hsrv, hcl, rfl, rfl, rfl, fun earlier rounds => ?_⟩
  have hst := C05_state_after C ⟨U, K, challenge⟩ earlier
  exact C05_legit_run C _ _ rfl rfl rounds _ (by rw [hst]) (by rw [hst])

/-- **the whole connection, all three expansions.** Under the hypotheses of `C01_login_agrees`:
    the login succeeds with one 40-byte session key `K`; then for all `u32` seeds
    * for Vanilla and for TBC the world login succeeds (the client's proof is accepted) and hands the
      two sides objects between which headers flow client → server and server → client forever, in
      any chunking and any interleaving of the two directions;
    * for Wrath the world login succeeds without panic and hands the two sides pairs between which
      bytes flow in both directions forever, and every list of server headers (size ≤ 0x7FFFFF,
      opcode < 65536) the server emits is decoded to exactly that list by the client, through either
      client path. -/
theorem System_connection (C : Crypto) (hC : C.WF) (hx : C.XorHashOk) (be : Backend)
    (us ps uc pc : List Char) (viaStorage : Bool) (salt b a challenge : Bytes) (U P : NStr)
    (hU : NStr.new us = .ok U) (hP : NStr.new ps = .ok P)
    (hu : SameUpToLetterCase us uc) (hp : SameUpToLetterCase ps pc)
    (hB : (3 * (7 ^ Spec.x C U.asRef P.asRef salt % Spec.N) + 7 ^ ofLE b % Spec.N) % Spec.N ≠ 0) :
    ∃ K A B M1 M2 vbytes,
      runLogin C be us ps uc pc viaStorage salt b a challenge = .ok K K A B M1 M2 vbytes ∧
      ∀ cs ss : Nat, cs < 2 ^ 32 → ss < 2 ^ 32 →
        (∀ e : Exp, ∃ (proof : Bytes) (cl sv : HeaderCrypto),
          ProofSeed.intoClientHeaderCrypto C e cs U K ss = (proof, cl) ∧
          ProofSeed.intoServerHeaderCrypto C e ss U K proof cs = .ok sv ∧
          HeadersFlow e cl sv ∧ HeadersFlow e sv cl ∧ HeadersDuplex e cl sv) ∧
        (∃ (proof : Bytes) (cc : WClientCrypto) (sc : WServerCrypto),
          ProofSeed.wrathIntoClient C cs U K ss = .ok (proof, cc) ∧
          ProofSeed.wrathIntoServer C ss U K proof cs = .ok (.ok sc) ∧
          WrathFlowC2S cc sc ∧ WrathFlowS2C sc cc ∧ WrathDuplex cc sc ∧
          ∀ hdrs : List (Nat × Nat), (∀ h ∈ hdrs, h.1 ≤ 0x7FFFFF ∧ h.2 < 65536) →
            ∃ s' wire c', serverEmitAll sc.encrypt hdrs = .ok (s', wire) ∧ c'.rc4 = s'.rc4 ∧
              clientReadAll hdrs.length cc.decrypt (dataScript wire []) = .ok (c', hdrs, []) ∧
              clientTwoStepAll hdrs.length cc.decrypt wire = .ok (c', hdrs, [])) := by
  obtain ⟨K, A, B, M1, M2, vbytes, hrun, hlen⟩ :=
    C01_login_agrees C hC hx be us ps uc pc viaStorage salt b a challenge U P hU hP hu hp hB
  refine ⟨K, A, B, M1, M2, vbytes, hrun, fun cs ss _ _ => ⟨fun e => ?_, ?_⟩⟩
  · have ⟨flow, duplex⟩ := System_headers_roundtrip C e K (by cases e <;> [exact hlen; exact hC])
    exact ⟨_, _, _, rfl, C06_pairing C e cs ss U K, flow, flow, duplex⟩
  · obtain ⟨proof, cc, sc, hwc, hws, hcc, hsc⟩ := C06_pairing_wrath C cs ss U K
    exact ⟨proof, cc, sc, hwc, hws, System_wrath C K cc sc hcc hsc⟩

/-- **the whole connection for the real hash functions** (SHA-1 / HMAC-SHA1 as executed by the
    driver): no assumption on the hash is left -/
theorem System_connection_real (be : Backend)
    (us ps uc pc : List Char) (viaStorage : Bool) (salt b a challenge : Bytes) (U P : NStr)
    (hU : NStr.new us = .ok U) (hP : NStr.new ps = .ok P)
    (hu : SameUpToLetterCase us uc) (hp : SameUpToLetterCase ps pc)
    (hB : (3 * (7 ^ Spec.x Crypto.real U.asRef P.asRef salt % Spec.N) + 7 ^ ofLE b % Spec.N) % Spec.N ≠ 0) :
    ∃ K A B M1 M2 vbytes,
      runLogin Crypto.real be us ps uc pc viaStorage salt b a challenge = .ok K K A B M1 M2 vbytes ∧
      ∀ cs ss : Nat, cs < 2 ^ 32 → ss < 2 ^ 32 →
        (∀ e : Exp, ∃ (proof : Bytes) (cl sv : HeaderCrypto),
          ProofSeed.intoClientHeaderCrypto Crypto.real e cs U K ss = (proof, cl) ∧
          ProofSeed.intoServerHeaderCrypto Crypto.real e ss U K proof cs = .ok sv ∧
          HeadersFlow e cl sv ∧ HeadersFlow e sv cl ∧ HeadersDuplex e cl sv) ∧
        (∃ (proof : Bytes) (cc : WClientCrypto) (sc : WServerCrypto),
          ProofSeed.wrathIntoClient Crypto.real cs U K ss = .ok (proof, cc) ∧
          ProofSeed.wrathIntoServer Crypto.real ss U K proof cs = .ok (.ok sc) ∧
          WrathFlowC2S cc sc ∧ WrathFlowS2C sc cc ∧ WrathDuplex cc sc ∧
          ∀ hdrs : List (Nat × Nat), (∀ h ∈ hdrs, h.1 ≤ 0x7FFFFF ∧ h.2 < 65536) →
            ∃ s' wire c', serverEmitAll sc.encrypt hdrs = .ok (s', wire) ∧ c'.rc4 = s'.rc4 ∧
              clientReadAll hdrs.length cc.decrypt (dataScript wire []) = .ok (c', hdrs, []) ∧
              clientTwoStepAll hdrs.length cc.decrypt wire = .ok (c', hdrs, [])) :=
  System_connection Crypto.real Crypto.real_WF C03_xor_hash_real be us ps uc pc viaStorage salt b a
    challenge U P hU hP hu hp hB

/-! ### non-vacuity

The hypotheses of `System_connection_real` are those of `C01_real`; the concrete credentials of C01's
example ("alice" / "password123", typed "Alice" / "PassWord123" on the client, fixed 32-byte salt and
private keys) meet them — every hypothesis is checked by kernel evaluation — so the conclusion holds
for a concrete, non-trivial login. The hypotheses of the header theorems are met for every key by the
constructors themselves (`HeaderCrypto.new` is a value; `ClientCrypto::new` / `ServerCrypto::new`
return for every key); a 40-byte key is what the login delivers. -/

private def exSalt : Bytes := (List.range 32).map (fun i => UInt8.ofNat (i * 7 + 3))
private def exA : Bytes := (List.range 32).map (fun i => UInt8.ofNat (i * 13 + 101))
private def exB : Bytes := (List.range 32).map (fun i => UInt8.ofNat (i * 29 + 57))
private def exChallenge : Bytes := (List.range 16).map (fun i => UInt8.ofNat (i + 1))
/-- "ALICE" -/
private def exU : NStr := ⟨[0x41, 0x4c, 0x49, 0x43, 0x45] ++ List.replicate 11 0, 5⟩
/-- "PASSWORD123" -/
private def exP : NStr :=
  ⟨[0x50, 0x41, 0x53, 0x53, 0x57, 0x4f, 0x52, 0x44, 0x31, 0x32, 0x33] ++ List.replicate 5 0, 11⟩

/-- a concrete login for which the whole-connection theorem fires: in particular the Vanilla client
    and server objects exist and headers flow both ways between them -/
example (be : Backend) (viaStorage : Bool) : ∃ K A B M1 M2 vbytes,
    runLogin Crypto.real be "alice".toList "password123".toList "Alice".toList "PassWord123".toList
      viaStorage exSalt exB exA exChallenge = .ok K K A B M1 M2 vbytes ∧
    ∃ (proof : Bytes) (cl sv : HeaderCrypto),
      ProofSeed.intoClientHeaderCrypto Crypto.real .vanilla 0xDEADBEEF exU K 1 = (proof, cl) ∧
      ProofSeed.intoServerHeaderCrypto Crypto.real .vanilla 1 exU K proof 0xDEADBEEF = .ok sv ∧
      HeadersFlow .vanilla cl sv ∧ HeadersFlow .vanilla sv cl ∧ HeadersDuplex .vanilla cl sv := by
  obtain ⟨K, A, B, M1, M2, vbytes, hrun, h⟩ :=
    System_connection_real be "alice".toList "password123".toList "Alice".toList "PassWord123".toList
      viaStorage exSalt exB exA exChallenge exU exP (by decide +kernel)
      (by decide +kernel) (by unfold SameUpToLetterCase; decide +kernel)
      (by unfold SameUpToLetterCase; decide +kernel)
      (by rw [pow_mod_eq_powMod, pow_mod_eq_powMod, Crypto.real_eq_fast]; decide +kernel)
  exact ⟨K, A, B, M1, M2, vbytes, hrun, (h 0xDEADBEEF 1 (by decide) (by decide)).1 .vanilla⟩

/-- the Wrath objects exist for every hash and key, and a mixed list of short and long headers meets
    the bounds -/
example (C : Crypto) (K : Bytes) :
    (∃ cc sc, WClientCrypto.new C K = .ok cc ∧ WServerCrypto.new C K = .ok sc) ∧
    (∀ h ∈ [(0x7FFF, 0x1EE), (0x8000, 0x1EE), (0, 0), (0x7FFFFF, 0xFFFF)], h.1 ≤ 0x7FFFFF ∧ h.2 < 65536) :=
  ⟨⟨_, _, WClientCrypto.new_eq C K, WServerCrypto.new_eq C K⟩, by decide⟩

end WowSrp
