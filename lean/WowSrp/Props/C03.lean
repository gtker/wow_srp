/-
C03 — every handshake value is byte-exact WoW SRP6, for any announced group.
Property theorems only; the Spec is `Spec/Srp.lean`, the lemmas are in `Lemmas/Srp.lean` (one equation
per model function, of which most theorems here are readings), `Lemmas/SrpGroup.lean`,
`Lemmas/Modulus.lean`, `Lemmas/Pratt.lean`.

Every theorem holds for both big-integer back ends (`be`) and an arbitrary hash (`C : Crypto`;
`C.WF` = output lengths 20/20/16 where lengths matter). Numbers are natural numbers; the bytes on the
wire are `leN 32 _` (32 bytes little endian).
-/
import Mathlib.Data.Nat.Prime.Basic
import WowSrp.Lemmas.SrpGroup
import WowSrp.Props.C04
import WowSrp.Lemmas.Eval
namespace WowSrp

/-- **constants**: N is one number in both byte orders, it is the prime 0x894B…9BB7 of the Spec,
    g = 7, k = 3, and the field widths are 32/32/32/32/20/20/40/16 bytes -/
theorem C03_constants :
    ofLE Gen.largeSafePrimeLE = ofBE Gen.largeSafePrimeBE ∧
    nBig = 0x894B645E89E1535BBDAD5B8B290650530801B18EBFBF5E8FAB3C82872A3E9BB7 ∧
    nBig = Spec.N ∧ Nat.Prime nBig ∧ gBig = 7 ∧ kBig = 3 ∧
    Gen.largeSafePrimeLE.length = 32 ∧ Gen.largeSafePrimeBE.length = 32 ∧
    Gen.largeSafePrimeLength = 32 ∧ Gen.generatorLength = 1 ∧
    Gen.saltLength = 32 ∧ Gen.privateKeyLength = 32 ∧ Gen.publicKeyLength = 32 ∧
    Gen.passwordVerifierLength = 32 ∧ Gen.sLength = 32 ∧
    Gen.sha1HashLength = 20 ∧ Gen.proofLength = 20 ∧ Gen.sessionKeyLength = 40 ∧
    Gen.reconnectDataLength = 16 ∧ Gen.precalculatedXorHash.length = 20 :=
  ⟨largeSafePrime_LE_eq_BE, nBig_val, specN_eq.symm, nBig_prime, gBig_val, kBig_val,
   by decide, by decide, by decide, by decide, by decide, by decide, by decide, by decide, by decide,
   by decide, by decide, by decide, by decide, by decide⟩

/-- **verifier**: `calculate_password_verifier` returns v = 7^x mod N, x = H(salt | H(U ':' P)) read
    little endian, as 32 little-endian bytes — every U, P, salt (of any length); never panics -/
theorem C03_verifier (C : Crypto) (be : Backend) (U P salt : Bytes) :
    calculatePasswordVerifier C be U P salt = .ok (leN 32 (7 ^ Spec.x C U P salt % Spec.N)) :=
  calculatePasswordVerifier_spec C be U P salt

/-- **server public key**: `calculate_server_public_key` computes B = (3·v + 7^b mod N) mod N, writes
    it as 32 little-endian bytes and hands them to the public-key check — every verifier and private
    key; never panics -/
theorem C03_server_public_key (be : Backend) (v b : Bytes) :
    calculateServerPublicKey be v b =
      .ok (PublicKey.fromLE (leN 32 ((3 * ofLE v + 7 ^ ofLE b % Spec.N) % Spec.N))) := by
  rw [calculateServerPublicKey_spec, ← PublicKey.fromLE_leN _ (Spec.B_lt _ _)]; rfl

/-- … and that check accepts every B ≠ 0 (B < N always), so the key that leaves the server is the
    32-byte little-endian B -/
theorem C03_server_public_key_accepted (be : Backend) (v b : Bytes)
    (hB : Spec.B (ofLE v) (ofLE b) ≠ 0) :
    calculateServerPublicKey be v b = .ok (.ok (leN 32 (Spec.B (ofLE v) (ofLE b)))) := by
  rw [calculateServerPublicKey_spec, if_neg hB]

/-- **client public key, any announced group**: for EVERY generator `g` and EVERY announced 32-byte
    modulus `nLE` of positive value N' (primality of N' is not needed for byte-exactness, only N' > 0):
    `calculate_client_public_key` returns A = g^a mod N' as 32 little-endian bytes when that residue is
    non-zero, and the error `IsZero` when it is zero; never panics -/
theorem C03_client_public_key (be : Backend) (a : Bytes) (g : Nat) (nLE : Bytes)
    (hN : 0 < ofLE nLE) (hl : nLE.length = 32) :
    (g ^ ofLE a % ofLE nLE ≠ 0 →
      calculateClientPublicKey be a g nLE = .ok (.ok (leN 32 (g ^ ofLE a % ofLE nLE)))) ∧
    (g ^ ofLE a % ofLE nLE = 0 →
      calculateClientPublicKey be a g nLE = .ok (.error .isZero)) := by
  have h := calculateClientPublicKey_spec be a g nLE hN
    (Nat.le_of_lt (ofLE_lt_of_length_le (Nat.le_of_eq hl)))
  unfold Spec.A at h
  exact ⟨fun h0 => by rw [h, if_neg h0], fun h0 => by rw [h, if_pos h0]⟩

/-- **server secret**: `calculate_S` returns S = (A·(v^u mod N))^b mod N as 32 little-endian bytes —
    every A, v, u, b; never panics -/
theorem C03_server_S (be : Backend) (A v u b : Bytes) :
    calculateS be A v u b = .ok (leN 32 (Spec.Sserver (ofLE A) (ofLE v) (ofLE u) (ofLE b))) :=
  calculateS_spec be A v u b

/-- **client secret, any announced group**: for EVERY generator and EVERY announced positive 32-byte
    modulus N' (prime or not) `calculate_client_S` returns
    S = (B − 3·(g^x mod N'))^(a + u·x) mod N' — the non-negative remainder of an integer power whose
    base is negative whenever B < 3·(g^x mod N') — as 32 little-endian bytes; never panics -/
theorem C03_client_S (be : Backend) (B x a u : Bytes) (g : Nat) (nLE : Bytes)
    (hN : 0 < ofLE nLE) (hl : nLE.length = 32) :
    calculateClientS be B x a u g nLE =
      .ok (leN 32 (Spec.Sclient (ofLE B) (ofLE x) (ofLE a) (ofLE u) g (ofLE nLE))) :=
  calculateClientS_spec be B x a u g nLE hN (Nat.le_of_lt (ofLE_lt_of_length_le (Nat.le_of_eq hl)))

/-- the Spec's client secret is a remainder: `0 ≤ S < N'`, and it is what the integer formula says -/
theorem C03_client_S_range (B x a u g N' : Nat) (hN : 0 < N') :
    Spec.Sclient B x a u g N' < N' ∧
    ((Spec.Sclient B x a u g N' : Nat) : Int) =
      ((B : Int) - 3 * ((g ^ x % N' : Nat) : Int)) ^ (a + u * x) % (N' : Int) := by
  rw [Spec.Sclient_eq_modpowVal B x a u g N' hN]
  exact ⟨modpowVal_lt _ _ _ hN, modpowVal_spec _ _ _ hN⟩

/-- **interleave**: for EVERY 32-byte S — whatever its number 0..32 of low-order zero bytes (induction
    on the scan, `scanZeros_spec`, not a case split) — `calculate_interleaved` returns
    SHA_Interleave of S with the low-order zero bytes removed and one more byte if an odd number of
    them was removed; the result has 40 bytes; no panic.
    (The property C03 excludes S = 0, which C14 treats; the theorem covers it too: the strip is then
    empty and both hashes are of the empty string.) -/
theorem C03_interleave (C : Crypto) (hC : C.WF) (S : Bytes) (hS : S.length = 32) :
    calculateInterleaved C S = .ok (Spec.interleave C S) ∧ (Spec.interleave C S).length = 40 :=
  ⟨calculateInterleaved_spec C hC S (by omega) (by omega), Spec.interleave_length C hC S⟩

/-- the strip rule in words: `n` low-order zero bytes followed by a non-zero byte lose `n` bytes when
    `n` is even and `n + 1` bytes when `n` is odd -/
theorem C03_strip_rule (n : Nat) (b : UInt8) (rest : Bytes) (hb : b ≠ 0) :
    Spec.strip (List.replicate n 0 ++ b :: rest) = (b :: rest).drop (n % 2) := by
  have hz : Spec.zeros (List.replicate n 0 ++ b :: rest) = n := by
    induction n with
    | zero => simpa using Spec.zeros_cons_ne b rest hb
    | succ k ih => rw [List.replicate_succ, List.cons_append, Spec.zeros_cons_zero, ih]
  unfold Spec.strip
  rw [hz, ← List.drop_drop, List.drop_left' (by simp)]

/-- the session key is the interleave of the 32-byte little-endian secret (`calculate_session_key`) -/
theorem C03_session_key (C : Crypto) (hC : C.WF) (be : Backend) (A B v b : Bytes)
    (hA : A.length = 32) (hB : B.length = 32) :
    calculateSessionKey C be A B v b =
      .ok (Spec.K C (Spec.Sserver (ofLE A) (ofLE v) (Spec.u C (ofLE A) (ofLE B)) (ofLE b))) :=
  calculateSessionKey_spec C hC be A B v b hA hB

/-- **M1, client side** (any announced group): the xor `H(N') xor H(g)` is computed -/
theorem C03_M1_client (C : Crypto) (U K A B salt nLE : Bytes) (g : Nat) :
    calculateClientProofCustom C U K A B salt nLE g = Spec.M1 C nLE g U salt A B K :=
  calculateClientProofCustom_spec C U K A B salt nLE g

/-- **M1, server side**: the precomputed constant is used … -/
theorem C03_M1_server (C : Crypto) (U K A B salt : Bytes) :
    calculateClientProof C U K A B salt =
      C.sha1 (Gen.precalculatedXorHash ++ C.sha1 U ++ salt ++ A ++ B ++ K) := rfl

/-- … which is the Spec's M1 for the built-in group, and so coincides with what the client computes,
    provided the constant is `H(N) xor H(7)` (`C.XorHashOk`, true for SHA-1: `C03_xor_hash_real`) -/
theorem C03_M1_server_spec (C : Crypto) (hx : C.XorHashOk) (U K A B salt : Bytes) :
    calculateClientProof C U K A B salt = Spec.M1 C Gen.largeSafePrimeLE 7 U salt A B K ∧
    calculateClientProof C U K A B salt
      = calculateClientProofCustom C U K A B salt Gen.largeSafePrimeLE gBig :=
  ⟨calculateClientProof_spec C hx U K A B salt,
   by rw [calculateClientProof_spec C hx, calculateClientProofCustom_spec, gBig_val]⟩

/-- `PRECALCULATED_XOR_HASH` really is SHA1(N little endian) xor SHA1([7]) — evaluated by the kernel on
    the executable FIPS 180-4 SHA-1 of `Model/Crypto.lean` -/
theorem C03_xor_hash_real : Crypto.real.XorHashOk := by
  unfold Crypto.XorHashOk
  rw [Crypto.real_eq_fast]
  decide +kernel

/-- **M2**: `calculate_server_proof` is H(A | M1 | K) -/
theorem C03_M2 (C : Crypto) (A M1 K : Bytes) :
    calculateServerProof C A M1 K = Spec.M2 C A M1 K := rfl

/-- non-vacuity of the announced-group theorems: a group that is not the built-in one (g = 5,
    N' = 2^255 − 19, 32 bytes) meets the hypotheses -/
example : 0 < ofLE (leN 32 (2 ^ 255 - 19)) ∧ (leN 32 (2 ^ 255 - 19)).length = 32 ∧
    leN 32 (2 ^ 255 - 19) ≠ Gen.largeSafePrimeLE := by decide +kernel

/-- **API, registration**: `SrpVerifier::from_username_and_password` (salt drawn = `salt`) stores the
    username, the salt, and the verifier 7^x mod N as 32 little-endian bytes; never panics -/
theorem C03_api_verifier (C : Crypto) (be : Backend) (u p : NStr) (salt : Bytes) :
    SrpVerifier.fromUsernameAndPassword C be u p salt =
      .ok ⟨u, leN 32 (7 ^ Spec.x C u.asRef p.asRef salt % Spec.N), salt⟩ :=
  SrpVerifier.fromUsernameAndPassword_spec C be u p salt

/-- **API, server step 1**: `into_proof` (private key drawn = `b`) exposes
    B = (3·v + 7^b mod N) mod N as 32 little-endian bytes, together with the stored salt, whenever
    B ≠ 0 (otherwise it panics, `C01_intoProof_panics_iff`) -/
theorem C03_api_server_public_key (be : Backend) (ver : SrpVerifier) (b : Bytes)
    (hB : (3 * ofLE ver.passwordVerifier + 7 ^ ofLE b % Spec.N) % Spec.N ≠ 0) :
    ver.intoProof be b =
      .ok ⟨ver.username, leN 32 ((3 * ofLE ver.passwordVerifier + 7 ^ ofLE b % Spec.N) % Spec.N),
           ver.salt, b, ver.passwordVerifier⟩ := by
  rw [SrpVerifier.intoProof_spec]; exact if_neg hB

/-- **API, client, any announced group**: `SrpClientChallenge::new` (private key drawn = `a`) for
    EVERY generator g and EVERY announced positive 32-byte modulus N' (prime or not) with
    g^a mod N' ≠ 0 exposes
    A = g^a mod N' (32 bytes LE),
    K = SHA_Interleave(LE32(S)), S = (B − 3·g^x)^(a+u·x) mod N', u = H(A|B), x = H(salt|H(U:P)),
    M1 = H(H(N') xor H(g) | H(U) | salt | A | B | K) -/
theorem C03_api_client (C : Crypto) (hC : C.WF) (be : Backend) (u p : NStr) (g : Nat)
    (nLE B salt a : Bytes) (hN : 0 < ofLE nLE) (hl : nLE.length = 32) (hB : B.length = 32)
    (hA : g ^ ofLE a % ofLE nLE ≠ 0) :
    let A := g ^ ofLE a % ofLE nLE
    let x := Spec.x C u.asRef p.asRef salt
    let K := Spec.K C (Spec.Sclient (ofLE B) x (ofLE a) (Spec.u C A (ofLE B)) g (ofLE nLE))
    SrpClientChallenge.new C be u p g nLE B salt a =
      .ok ⟨u, Spec.M1 C nLE g u.asRef salt (leN 32 A) B K, leN 32 A, K⟩ :=
  SrpClientChallenge.new_spec C hC be u p g nLE B salt a hN hl hB hA

/-- **API, server step 2**: `into_server` on the client's 32-byte A and proof M1 computes
    K = SHA_Interleave(LE32((A·v^u)^b mod N)), u = H(A|B); it accepts exactly when M1 is the Spec's
    M1 for the built-in group, and then returns that K (as `session_key`) and M2 = H(A | M1 | K);
    otherwise it returns the error carrying both proofs and no session value -/
theorem C03_api_server (C : Crypto) (hC : C.WF) (hx : C.XorHashOk) (be : Backend) (p : SrpProof)
    (A M1 challenge : Bytes) (hA : A.length = 32) (hB : p.serverPublicKey.length = 32) :
    let K := Spec.K C (Spec.Sserver (ofLE A) (ofLE p.passwordVerifier)
                (Spec.u C (ofLE A) (ofLE p.serverPublicKey)) (ofLE p.serverPrivateKey))
    let M1s := Spec.M1 C Gen.largeSafePrimeLE 7 p.username.asRef p.salt A p.serverPublicKey K
    p.intoServer C be A M1 challenge =
      .ok (if M1 = M1s then .ok (⟨p.username, K, challenge⟩, Spec.M2 C A M1 K)
           else .error ⟨M1, M1s⟩) := by
  intro K M1s
  rw [SrpProof.intoServer_spec C hC be p A M1 challenge hA hB, calculateClientProof_spec C hx]

/-- **API, client accepts**: `verify_server_proof` accepts exactly M2 = H(A | M1 | K) and then hands
    out the K computed by `SrpClientChallenge::new` as `session_key` -/
theorem C03_api_client_key (C : Crypto) (c : SrpClientChallenge) (M2 : Bytes) :
    c.verifyServerProof C M2 =
      if M2 = Spec.M2 C c.clientPublicKey c.clientProof c.sessionKey
      then .ok ⟨c.username, c.sessionKey⟩
      else .error ⟨Spec.M2 C c.clientPublicKey c.clientProof c.sessionKey, M2⟩ :=
  SrpClientChallenge.verifyServerProof_spec C c M2

/-- **C03 at the API**: all five statements together -/
theorem C03_api (C : Crypto) (hC : C.WF) (hx : C.XorHashOk) (be : Backend) :
    (∀ (u p : NStr) (salt : Bytes),
      SrpVerifier.fromUsernameAndPassword C be u p salt =
        .ok ⟨u, leN 32 (7 ^ Spec.x C u.asRef p.asRef salt % Spec.N), salt⟩) ∧
    (∀ (ver : SrpVerifier) (b : Bytes), Spec.B (ofLE ver.passwordVerifier) (ofLE b) ≠ 0 →
      ver.intoProof be b = .ok ⟨ver.username, leN 32 (Spec.B (ofLE ver.passwordVerifier) (ofLE b)),
        ver.salt, b, ver.passwordVerifier⟩) ∧
    (∀ (u p : NStr) (g : Nat) (nLE B salt a : Bytes), 0 < ofLE nLE → nLE.length = 32 →
      B.length = 32 → Spec.A g (ofLE a) (ofLE nLE) ≠ 0 →
      ∃ cc, SrpClientChallenge.new C be u p g nLE B salt a = .ok cc ∧
        cc.clientPublicKey = leN 32 (Spec.A g (ofLE a) (ofLE nLE)) ∧
        cc.sessionKey = Spec.K C (Spec.Sclient (ofLE B) (Spec.x C u.asRef p.asRef salt) (ofLE a)
            (Spec.u C (Spec.A g (ofLE a) (ofLE nLE)) (ofLE B)) g (ofLE nLE)) ∧
        cc.clientProof = Spec.M1 C nLE g u.asRef salt cc.clientPublicKey B cc.sessionKey) ∧
    (∀ (p : SrpProof) (A challenge : Bytes), A.length = 32 → p.serverPublicKey.length = 32 →
      ∃ K, K = Spec.K C (Spec.Sserver (ofLE A) (ofLE p.passwordVerifier)
                (Spec.u C (ofLE A) (ofLE p.serverPublicKey)) (ofLE p.serverPrivateKey)) ∧
        p.intoServer C be A
            (Spec.M1 C Gen.largeSafePrimeLE 7 p.username.asRef p.salt A p.serverPublicKey K) challenge =
          .ok (.ok (⟨p.username, K, challenge⟩,
            Spec.M2 C A (Spec.M1 C Gen.largeSafePrimeLE 7 p.username.asRef p.salt A p.serverPublicKey K) K))) ∧
    (∀ (c : SrpClientChallenge),
      c.verifyServerProof C (Spec.M2 C c.clientPublicKey c.clientProof c.sessionKey) =
        .ok ⟨c.username, c.sessionKey⟩) := by
  refine ⟨C03_api_verifier C be, C03_api_server_public_key be, ?_, ?_, ?_⟩
  · intro u p g nLE B salt a hN hl hB hA
    exact ⟨_, SrpClientChallenge.new_spec C hC be u p g nLE B salt a hN hl hB hA, rfl, rfl, rfl⟩
  · intro p A challenge hA hB
    exact ⟨_, rfl, (C03_api_server C hC hx be p A _ challenge hA hB).trans (by rw [if_pos rfl])⟩
  · intro c
    rw [C03_api_client_key]; exact if_pos rfl

/-! ### announced PRIME groups: the side condition `g^a mod N' ≠ 0` discharged

`C03_api_client` takes `hA : g ^ a % N' ≠ 0`. The property quantifies over PRIME announced moduli; for
those the side condition is a statement about `g` alone. -/

/-- for a prime modulus that does not divide the generator, no power of the generator is `≡ 0`:
    `g^a mod N' ≠ 0` for EVERY private key `a` (a prime dividing a power divides the base) -/
theorem C03_hA_of_prime {N' g : Nat} (a : Nat) (hp : Nat.Prime N') (hg : ¬ N' ∣ g) :
    g ^ a % N' ≠ 0 :=
  pow_mod_prime_ne_zero N' g a hp hg

/-- … exactly: for a prime modulus, `g^a mod N' = 0` iff the prime divides the generator and the
    private key is not zero (`g^0 = 1`) -/
theorem C03_hA_iff_of_prime {N' g : Nat} (a : Nat) (hp : Nat.Prime N') :
    g ^ a % N' = 0 ↔ (N' ∣ g ∧ a ≠ 0) := by
  constructor
  · intro h
    refine ⟨hp.dvd_of_dvd_pow (Nat.dvd_of_mod_eq_zero h), fun ha => ?_⟩
    subst ha
    rw [pow_zero, Nat.mod_eq_of_lt hp.one_lt] at h
    exact one_ne_zero h
  · rintro ⟨hd, ha⟩
    exact Nat.mod_eq_zero_of_dvd (dvd_trans hd (dvd_pow_self g ha))

/-- the property's generators: a generator `1 ≤ g < N'` (in particular every `g` in `2..255` against any
    prime modulus above 255 — every prime of more than one byte) is not divisible by `N'` -/
theorem C03_not_dvd_of_lt {N' g : Nat} (hg0 : 0 < g) (hlt : g < N') : ¬ N' ∣ g :=
  Nat.not_dvd_of_pos_of_lt hg0 hlt

/-- **API, client, any announced PRIME group** (`C03_api_client` with `hA` discharged): for EVERY
    announced 32-byte PRIME modulus N' and EVERY generator g that N' does not divide, every account,
    server key `B`, salt and drawn private key `a`, `SrpClientChallenge::new` does not panic and exposes
    A = g^a mod N' (32 bytes LE), K = SHA_Interleave(LE32(S)), S = (B − 3·g^x)^(a+u·x) mod N',
    u = H(A|B), x = H(salt|H(U:P)), M1 = H(H(N') xor H(g) | H(U) | salt | A | B | K) -/
theorem C03_api_client_prime (C : Crypto) (hC : C.WF) (be : Backend) (u p : NStr) (g : Nat)
    (nLE B salt a : Bytes) (hl : nLE.length = 32) (hB : B.length = 32)
    (hprime : Nat.Prime (ofLE nLE) ∧ ¬ ofLE nLE ∣ g) :
    let A := g ^ ofLE a % ofLE nLE
    let x := Spec.x C u.asRef p.asRef salt
    let K := Spec.K C (Spec.Sclient (ofLE B) x (ofLE a) (Spec.u C A (ofLE B)) g (ofLE nLE))
    SrpClientChallenge.new C be u p g nLE B salt a =
      .ok ⟨u, Spec.M1 C nLE g u.asRef salt (leN 32 A) B K, leN 32 A, K⟩ :=
  C03_api_client C hC be u p g nLE B salt a hprime.1.pos hl hB (C03_hA_of_prime _ hprime.1 hprime.2)

/-- the same with the property's generator range: `1 ≤ g < N'` (e.g. `g ∈ 2..255`, `N'` a prime of more
    than one byte) -/
theorem C03_api_client_prime_small_g (C : Crypto) (hC : C.WF) (be : Backend) (u p : NStr) (g : Nat)
    (nLE B salt a : Bytes) (hl : nLE.length = 32) (hB : B.length = 32)
    (hprime : Nat.Prime (ofLE nLE)) (hg0 : 0 < g) (hg : g < ofLE nLE) :
    let A := g ^ ofLE a % ofLE nLE
    let x := Spec.x C u.asRef p.asRef salt
    let K := Spec.K C (Spec.Sclient (ofLE B) x (ofLE a) (Spec.u C A (ofLE B)) g (ofLE nLE))
    SrpClientChallenge.new C be u p g nLE B salt a =
      .ok ⟨u, Spec.M1 C nLE g u.asRef salt (leN 32 A) B K, leN 32 A, K⟩ :=
  C03_api_client_prime C hC be u p g nLE B salt a hl hB ⟨hprime, C03_not_dvd_of_lt hg0 hg⟩

/-- **the complementary case** (re-export of `C04_client_self`, `Props/C04.lean`): an announced prime
    that DIVIDES the generator makes `SrpClientChallenge::new` hit the documented panic
    "Invalid public key generated for client" for every non-zero private-key draw (`A = g^a mod N' = 0`),
    and only then: for a prime modulus the constructor panics iff `N' ∣ g ∧ a ≠ 0`. So the hypothesis
    `¬ N' ∣ g` of `C03_api_client_prime` is exactly what separates byte-exact output from the panic. -/
theorem C03_api_client_prime_dvd_panics (C : Crypto) (hC : C.WF) (be : Backend) (u p : NStr) (g : Nat)
    (nLE B salt a : Bytes) (hl : nLE.length = 32) (hprime : Nat.Prime (ofLE nLE)) :
    ((∃ site, SrpClientChallenge.new C be u p g nLE B salt a = .panic site) ↔
      (ofLE nLE ∣ g ∧ ofLE a ≠ 0)) ∧
    (ofLE nLE ∣ g → ofLE a ≠ 0 →
      SrpClientChallenge.new C be u p g nLE B salt a =
        .panic "client.rs:190 Invalid public key generated for client") := by
  obtain ⟨h1, h2, _⟩ := C04_client_self C hC be u p g nLE B salt a hl hprime.pos
  exact ⟨h1.trans (C03_hA_iff_of_prime _ hprime), fun hd ha =>
    h2 ((C03_hA_iff_of_prime _ hprime).2 ⟨hd, ha⟩)⟩

/-- non-vacuity: the built-in prime with `g = 7` meets the hypotheses of
    `C03_api_client_prime_small_g`; the prime 7 (as a 32-byte modulus) divides the generator 7, the
    complementary case -/
example : Nat.Prime (ofLE Gen.largeSafePrimeLE) ∧ Gen.largeSafePrimeLE.length = 32 ∧
    0 < 7 ∧ 7 < ofLE Gen.largeSafePrimeLE :=
  ⟨nBig_prime, by decide, by decide, by decide +kernel⟩
example : Nat.Prime (ofLE (7 :: List.replicate 31 0)) ∧ ofLE (7 :: List.replicate 31 0) ∣ 7 ∧
    ofLE [1] ≠ 0 := by
  refine ⟨?_, ?_, by decide⟩
  · have : ofLE (7 :: List.replicate 31 0) = 7 := by decide
    rw [this]; exact Nat.prime_seven
  · decide

#print axioms C03_hA_of_prime
#print axioms C03_hA_iff_of_prime
#print axioms C03_not_dvd_of_lt
#print axioms C03_api_client_prime
#print axioms C03_api_client_prime_small_g
#print axioms C03_api_client_prime_dvd_panics

end WowSrp
