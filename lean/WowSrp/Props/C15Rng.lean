/-
C15 (continued) — the convenience generators (`pin::get_pin_grid_seed`, `pin::get_pin_salt`,
`integrity::get_salt_value`, `matrix_card::get_matrix_card_seed`, the three `ProofSeed::new`;
Model/Rng.lean): each takes exactly its `n` bytes from the front of the RNG stream and returns an
injective function of exactly those bytes. Helper lemmas live in Lemmas/RngDraw.lean.
-/
import WowSrp.Lemmas.RngDraw
namespace WowSrp

/-- tie to the source: the two salt lengths -/
theorem C15_rng_constants : Gen.pinSaltSize = 16 ∧ Gen.integritySaltLength = 16 := by decide

/-- **every convenience generator draws exactly its bytes**: the PIN grid seed is the little-endian
    `u32` of the next 4 bytes, the PIN salt the next `Gen.pinSaltSize` = 16 bytes themselves, the
    integrity salt the next `Gen.integritySaltLength` = 16 bytes themselves, the matrix-card seed the
    little-endian `u64` of the next 8 bytes, `ProofSeed::new` the little-endian `u32` of the next 4
    bytes; the seeds are `< 2^32` / `< 2^64` and the salts have exactly the documented length. -/
theorem C15_convenience_generators :
    DrawsExactly getPinGridSeed 4 ofLE ∧
    DrawsExactly getPinSalt Gen.pinSaltSize id ∧
    DrawsExactly getIntegritySalt Gen.integritySaltLength id ∧
    DrawsExactly getMatrixCardSeed 8 ofLE ∧
    DrawsExactly proofSeedNew 4 ofLE ∧
    (∀ rng v rest, getPinGridSeed rng = some (v, rest) → v < 2 ^ 32) ∧
    (∀ rng v rest, getPinSalt rng = some (v, rest) → v.length = Gen.pinSaltSize) ∧
    (∀ rng v rest, getIntegritySalt rng = some (v, rest) → v.length = Gen.integritySaltLength) ∧
    (∀ rng v rest, getMatrixCardSeed rng = some (v, rest) → v < 2 ^ 64) ∧
    (∀ rng v rest, proofSeedNew rng = some (v, rest) → v < 2 ^ 32) := by
  have hofLE : ∀ n (d d' : Bytes), d.length = n → d'.length = n → ofLE d = ofLE d' → d = d' :=
    fun n d d' h h' e => ofLE_inj d d' (h.trans h'.symm) e
  have hid : ∀ n (d d' : Bytes), d.length = n → d'.length = n → id d = id d' → d = d' :=
    fun _ _ _ _ _ e => e
  have g1 : DrawsExactly getPinGridSeed 4 ofLE := .of_eq (drawBytes_map_eq 4 ofLE) (hofLE 4)
  have g2 : DrawsExactly getPinSalt Gen.pinSaltSize id := .of_eq (fun _ => rfl) (hid _)
  have g3 : DrawsExactly getIntegritySalt Gen.integritySaltLength id := .of_eq (fun _ => rfl) (hid _)
  have g4 : DrawsExactly getMatrixCardSeed 8 ofLE := .of_eq (drawBytes_map_eq 8 ofLE) (hofLE 8)
  have g5 : DrawsExactly proofSeedNew 4 ofLE := .of_eq (drawBytes_map_eq 4 ofLE) (hofLE 4)
  -- the bounds: a returned value is `val` of `rng.take n`, which has at most (for the salts: exactly) `n` bytes
  refine ⟨g1, g2, g3, g4, g5, ?_, ?_, ?_, ?_, ?_⟩
  · intro rng v rest h; obtain ⟨_, rfl, _⟩ := g1.eq_some_iff.1 h
    exact ofLE_lt_of_length_le (w := 4) (List.length_take_le ..)
  · intro rng v rest h; obtain ⟨hl, rfl, _⟩ := g2.eq_some_iff.1 h; exact List.length_take_of_le hl
  · intro rng v rest h; obtain ⟨hl, rfl, _⟩ := g3.eq_some_iff.1 h; exact List.length_take_of_le hl
  · intro rng v rest h; obtain ⟨_, rfl, _⟩ := g4.eq_some_iff.1 h
    exact ofLE_lt_of_length_le (w := 8) (List.length_take_le ..)
  · intro rng v rest h; obtain ⟨_, rfl, _⟩ := g5.eq_some_iff.1 h
    exact ofLE_lt_of_length_le (w := 4) (List.length_take_le ..)

/-- the "different bytes ⇒ different value" clause spelled out for one generator (the others are the
    same clause of `C15_convenience_generators`): two streams whose first 4 bytes differ give
    different PIN grid seeds -/
theorem C15_pin_grid_seed_differs (rng rng' : Bytes) (v v' : Nat) (rest rest' : Bytes)
    (h : getPinGridSeed rng = some (v, rest)) (h' : getPinGridSeed rng' = some (v', rest'))
    (hne : rng.take 4 ≠ rng'.take 4) : v ≠ v' :=
  fun e => hne ((C15_convenience_generators.1.val_eq_iff h h').1 e)

/-- calls made one after the other draw disjoint, consecutive pieces of the stream: e.g. a PIN grid
    seed followed by a PIN salt use bytes 0‥3 and 4‥19 -/
theorem C15_generators_sequential (rng : Bytes) (seed : Nat) (r₁ salt r₂ : Bytes)
    (h₁ : getPinGridSeed rng = some (seed, r₁)) (h₂ : getPinSalt r₁ = some (salt, r₂)) :
    seed = ofLE (rng.take 4) ∧ salt = (rng.drop 4).take 16 ∧ r₂ = rng.drop 20 := by
  obtain ⟨_, hv, hr⟩ := C15_convenience_generators.1.eq_some_iff.1 h₁
  obtain ⟨_, hs, hr₂⟩ := C15_convenience_generators.2.1.eq_some_iff.1 h₂
  have h16 : Gen.pinSaltSize = 16 := rfl
  rw [h16] at hs hr₂
  subst hr
  refine ⟨hv, hs, ?_⟩
  rw [hr₂, List.drop_drop]

/-- non-vacuity: concrete streams — success with the expected value and rest, failure on a short
    stream, and two streams differing in the 4th byte only -/
example :
    getPinGridSeed [1, 2, 0, 0, 9, 8] = some (513, [9, 8]) ∧
    getPinGridSeed [1, 2, 0] = none ∧
    getPinGridSeed [1, 2, 0, 1, 9, 8] = some (16777729, [9, 8]) ∧
    getMatrixCardSeed [0, 0, 0, 0, 0, 0, 0, 1, 7] = some (2 ^ 56, [7]) ∧
    proofSeedNew [255, 255, 255, 255] = some (2 ^ 32 - 1, []) ∧
    getPinSalt (List.replicate 15 0) = none ∧
    getIntegritySalt (List.replicate 16 5 ++ [6]) = some (List.replicate 16 5, [6]) := by
  decide

end WowSrp
