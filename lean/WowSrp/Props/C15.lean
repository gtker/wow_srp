/-
C15 — every ephemeral secret, salt, challenge and seed is freshly random per use — PARTIAL by nature.

What the model carries: every random draw of the Rust code is an *explicit argument* of the model
function (the correspondence harness injects exactly those bytes through the `rand` shim). The
theorems below show that each observable output is an injective function of exactly the bytes drawn
for that call: identity for salts, challenges and seeds; `ofLE` of all 32 bytes for private keys.
Hence distinct draws give distinct values, every output byte is the corresponding drawn byte, nothing
is cached, truncated or replaced by a constant; card digits are ≤ 9 and each costs whole 4-byte samples.

What no model can exhibit: that `ThreadRng` itself is unpredictable and does not repeat. That is the
trusted `rand` crate; the thorough tier of the checker adds a *statistical* test for it, so labelled.
The convenience generators that merely return drawn bytes (`get_salt_value`, `get_pin_salt`,
`get_pin_grid_seed`, `get_matrix_card_seed`, `ProofSeed::new`; `Model/Rng.lean`) are in
`Props/C15Rng.lean`.
-/
import WowSrp.Model.Srp
import WowSrp.Model.World
import WowSrp.Model.MatrixCard
import WowSrp.Lemmas.Srp
import WowSrp.Lemmas.RngDraw
namespace WowSrp

/-- **registration salt**: the verifier stores exactly the drawn salt (and the given username) -/
theorem C15_salt (C : Crypto) (be : Backend) (u p : NStr) (salt : Bytes) (v : SrpVerifier)
    (h : SrpVerifier.fromUsernameAndPassword C be u p salt = .ok v) :
    v.salt = salt ∧ v.username = u := by
  rw [SrpVerifier.fromUsernameAndPassword_spec] at h
  cases h
  exact ⟨rfl, rfl⟩

/-- **server reconnect challenge at login**: the session object holds exactly the 16 drawn bytes -/
theorem C15_login_challenge (C : Crypto) (be : Backend) (p : SrpProof) (A M1 chal : Bytes)
    (srv : SrpServer) (M2 : Bytes) (h : p.intoServer C be A M1 chal = .ok (.ok (srv, M2))) :
    srv.reconnectChallengeData = chal := by
  rw [SrpProof.intoServer_eq] at h
  obtain ⟨K, _, h⟩ := Out.bind_eq_ok.1 h
  obtain ⟨_, h⟩ := Except.ite_eq_ok.1 (Out.ok.inj h)
  cases h
  rfl

/-- **refresh after every attempt, on both verdicts**: the challenge afterwards is that attempt's draw -/
theorem C15_reconnect_refresh (C : Crypto) (s : SrpServer) (cd proof draw : Bytes) :
    (s.verifyReconnectionAttempt C cd proof draw).2.reconnectChallengeData = draw ∧
    ((s.verifyReconnectionAttempt C cd proof draw).1 = true ∨
     (s.verifyReconnectionAttempt C cd proof draw).1 = false) := by
  refine ⟨rfl, ?_⟩
  cases (s.verifyReconnectionAttempt C cd proof draw).1 <;> simp

/-- **client reconnect challenge**: what the client sends is exactly its draw, and that draw is what
    its proof covers -/
theorem C15_client_challenge (C : Crypto) (c : SrpClient) (serverChallenge cd : Bytes) :
    (c.calculateReconnectValues C serverChallenge cd).1 = cd ∧
    (c.calculateReconnectValues C serverChallenge cd).2 =
      C.sha1 (c.username.asRef ++ cd ++ serverChallenge ++ c.sessionKey) := ⟨rfl, rfl⟩

/-- **seed = the four drawn bytes**: `ProofSeed::new` of a 4-byte draw is a `u32`, its little-endian
    bytes are the draw, and different draws give different seeds -/
theorem C15_seed (d d' : Bytes) (hd : d.length = 4) (hd' : d'.length = 4) :
    ProofSeed.ofDraw d < 2 ^ 32 ∧ leN 4 (ProofSeed.ofDraw d) = d ∧
    (ProofSeed.ofDraw d = ProofSeed.ofDraw d' → d = d') := by
  refine ⟨ProofSeed.ofDraw_lt d, ProofSeed.leN_ofDraw hd, fun h => ?_⟩
  rw [← ProofSeed.leN_ofDraw hd, h, ProofSeed.leN_ofDraw hd']

/-- `ofLE` is injective on 32-byte draws: no byte of a private key is dropped or masked -/
theorem C15_private_key_value (k k' : Bytes) (hk : k.length = 32) (hk' : k'.length = 32)
    (h : ofLE k = ofLE k') : k = k' := ofLE_inj k k' (hk.trans hk'.symm) h

/-- **server private key**: `into_proof` stores the drawn `b` itself, and the public key it publishes is
    computed from the exponent `ofLE b` — the number all 32 drawn bytes encode -/
theorem C15_server_private_key (be : Backend) (s : SrpVerifier) (b : Bytes) (p : SrpProof)
    (h : s.intoProof be b = .ok p) :
    p.serverPrivateKey = b ∧
    calculateServerPublicKey be s.passwordVerifier b = .ok (.ok p.serverPublicKey) ∧
    calculateServerPublicKey be s.passwordVerifier b =
      (do let t ← be.modpow gBig (ofLE b) nBig
          let B ← remOut (kBig * ofLE s.passwordVerifier + t) nBig
          PublicKey.tryFromBigint be B) := by
  rw [SrpVerifier.intoProof_spec] at h
  split at h
  · cases h
  · next hB => cases h; exact ⟨rfl, by rw [calculateServerPublicKey_spec, if_neg hB], rfl⟩

/-- **client private key**: the client's public key is computed from the exponent `ofLE a`, and the
    challenge object stores that public key -/
theorem C15_client_private_key (C : Crypto) (be : Backend) (u pw : NStr) (g : Nat) (nLE B salt a : Bytes)
    (cc : SrpClientChallenge) (h : SrpClientChallenge.new C be u pw g nLE B salt a = .ok cc) :
    calculateClientPublicKey be a g nLE = .ok (.ok cc.clientPublicKey) ∧
    calculateClientPublicKey be a g nLE =
      (do let A ← be.modpow g (ofLE a) (ofLE nLE)
          PublicKey.clientTryFromBigint be A (ofLE nLE)) := by
  obtain ⟨_, _, _, hA, _, _, rfl⟩ := SrpClientChallenge.new_eq_ok.1 h
  exact ⟨hA, rfl⟩

/-- tie to the source: digits are drawn from `0..=9`, so rand's `range` is 10 and its rejection
    zone `u32::MAX - (2^32 - 10) % 10` -/
theorem C15_uniform_constants :
    Gen.minMatrixCardValue = 0 ∧ Gen.maxMatrixCardValue = 9 ∧ uniformRange = 10 ∧
    uniformZone = 4294967289 := by decide

/-- rand's acceptance test for one `u32` sample `v` -/
def sampleAccepted (v : Nat) : Bool := v * uniformRange % 2 ^ 32 ≤ uniformZone
/-- the digit an accepted sample yields: the high word of the widening multiplication -/
def sampleDigit (v : Nat) : UInt8 := UInt8.ofNat (Gen.minMatrixCardValue + v * uniformRange / 2 ^ 32)

/-- every `u32` sample yields a digit 0..9 -/
theorem sampleDigit_le (v : Nat) (hv : v < 2 ^ 32) : (sampleDigit v).toNat ≤ 9 := by
  unfold sampleDigit
  have h1 : uniformRange = 10 := by decide
  have h2 : Gen.minMatrixCardValue = 0 := by decide
  rw [h1, h2, Nat.zero_add, UInt8.toNat_ofNat']
  have hq : v * 10 / 2 ^ 32 < 10 := by omega
  generalize v * 10 / 2 ^ 32 = q at hq ⊢
  omega

/-- **exact account of `fill_matrix_card_values`**: whenever it returns, the consumed part of the
    stream is a sequence of whole 4-byte samples, the digits are exactly the accepted samples' high
    words in order (one accepted sample per card byte, rejected samples produce nothing), there are
    exactly `n` of them, and the rest of the stream is untouched -/
theorem C15_digits_exact (fuel n : Nat) (rng ds rest : Bytes)
    (h : fillDigits fuel n rng = some (ds, rest)) :
    ∃ samples : List Bytes, (∀ s ∈ samples, s.length = 4) ∧ rng = samples.flatten ++ rest ∧
      ds = ((samples.map ofLE).filter sampleAccepted).map sampleDigit ∧ ds.length = n := by
  -- one more whole sample in front of an account of the rest of the stream
  have step : ∀ {rng rest : Bytes} {samples : List Bytes}, ¬ rng.length < 4 →
      (∀ s ∈ samples, s.length = 4) → rng.drop 4 = samples.flatten ++ rest →
      (∀ s ∈ rng.take 4 :: samples, s.length = 4) ∧ rng = (rng.take 4 :: samples).flatten ++ rest := by
    intro rng rest samples hl hs4 hrng
    refine ⟨fun s hs => ?_, ?_⟩
    · rcases List.mem_cons.1 hs with rfl | hs
      · exact List.length_take_of_le (Nat.le_of_not_lt hl)
      · exact hs4 s hs
    · rw [List.flatten_cons, List.append_assoc, ← hrng, List.take_append_drop]
  fun_induction fillDigits fuel n rng generalizing ds rest with
  | case1 t rng => cases h; exact ⟨[], nofun, rfl, rfl, rfl⟩   -- no digit wanted: nothing is drawn
  | case2 => cases h                                            -- out of fuel
  | case3 => cases h                                            -- fewer than 4 bytes left
  | case4 fuel n rng hl v m hi lo hacc ds' rest' hr ih =>       -- sample `v` accepted, the rest delivers `ds'`
    cases h
    obtain ⟨samples, hs4, hrng, hds, hn⟩ := ih ds' rest' hr
    obtain ⟨h4, hcat⟩ := step hl hs4 hrng
    have hacc' : sampleAccepted v = true := decide_eq_true hacc
    refine ⟨_, h4, hcat, ?_, by rw [List.length_cons, hn]⟩
    rw [List.map_cons, List.filter_cons_of_pos hacc', List.map_cons, ← hds]; rfl
  | case5 => cases h                                            -- `v` accepted, the rest runs dry
  | case6 fuel n rng hl v m lo hrej ih =>                       -- `v` rejected: all `n` digits from the rest
    obtain ⟨samples, hs4, hrng, hds, hn⟩ := ih ds rest h
    obtain ⟨h4, hcat⟩ := step hl hs4 hrng
    have hrej' : ¬ sampleAccepted v = true := fun e => hrej (of_decide_eq_true e)
    refine ⟨_, h4, hcat, ?_, hn⟩
    rw [List.map_cons, List.filter_cons_of_neg hrej']; exact hds

/-- **digits stay within 0..9**, one per requested card byte, and the stream is consumed in whole
    4-byte samples, at least one per digit -/
theorem C15_digits (fuel n : Nat) (rng ds rest : Bytes)
    (h : fillDigits fuel n rng = some (ds, rest)) :
    (∀ d ∈ ds, d.toNat ≤ 9) ∧ ds.length = n ∧
    ∃ k, n ≤ k ∧ rng.length = 4 * k + rest.length ∧ rest = rng.drop (4 * k) := by
  obtain ⟨samples, hs4, hrng, hds, hn⟩ := C15_digits_exact fuel n rng ds rest h
  have hflat : samples.flatten.length = 4 * samples.length := by
    rw [List.length_flatten, List.map_congr_left hs4, List.map_const', List.sum_replicate_nat, Nat.mul_comm]
  refine ⟨?_, hn, samples.length, ?_, ?_, ?_⟩
  · intro d hd
    rw [hds] at hd
    obtain ⟨v, hv, rfl⟩ := List.mem_map.1 hd
    have hv' := (List.mem_filter.1 hv).1
    obtain ⟨s, hs, rfl⟩ := List.mem_map.1 hv'
    exact sampleDigit_le _ (ofLE_lt_of_length_le (w := 4) (Nat.le_of_eq (hs4 s hs)))
  · rw [← hn, hds, List.length_map]
    calc ((samples.map ofLE).filter sampleAccepted).length ≤ (samples.map ofLE).length :=
          List.length_filter_le _ _
      _ = samples.length := List.length_map _
  · rw [hrng, List.length_append, hflat]
  · rw [hrng, ← hflat, List.drop_left]

section
/-- a stream whose first sample (0x19999999: `lo = 2^32 - 6 > zone`) is rejected and whose next two
    are accepted: two digits (0 and 5), twelve bytes consumed, the rest left alone -/
example : fillDigits 5 2 [0x99, 0x99, 0x99, 0x19, 0, 0, 0, 0, 0, 0, 0, 0x80, 7, 7] = some ([0, 5], [7, 7]) := by
  decide
example : sampleAccepted 0x19999999 = false ∧ sampleAccepted 0xFFFFFFFF = true ∧ sampleDigit 0xFFFFFFFF = 9 ∧
    sampleAccepted 0 = true ∧ sampleDigit 0 = 0 := by
  decide
end

end WowSrp
