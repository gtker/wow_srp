/-
Session refinement: `HObj.step` / `HObj.run` (Model/Session.lean, the function the driver's `hdrOp` runs)
refine `Spec.specStep` / `Spec.specRun` (Spec/Session.lean) for every object form and every
op, under the well-formedness invariant `HObj.WF`. Core Lean only.

The corollaries: (a) / (a') the object form does not matter, (b) the encrypt direction depends only on the
bytes offered to it, (b') the decrypt direction likewise, (c) a concrete session by evaluation. In the file
(b) stands before (a), whose step lemma for the flag rests on (b)'s. (b) and (b') mirror each other, on the two types
`EncSt` / `DecSt`; what both use is stated once on the Spec ciphers (Lemmas/HeaderSpec.lean: `Spec.Stream.*`,
`Spec.Rc4.crypt_*`).

How the proof goes: for every model function a split object dispatches to there is an *equation* under the
invariant (`Half.encrypt_eq`, `Rc4.apply_eq_crypt`, `WClientDec.attempt_eq`, …: "never panics, and the result is
this term over the Spec functions"; the read wrappers: `readThen_refines`, `WClientDec.readServerHeader_refines`);
the three lemmas for the split forms (`halves_step`, `wcliH_step`, `wsrvH_step`) rewrite with them op by op.
A combined object needs no invariant reasoning of its own: its methods are those of its halves, re-packed
(`HObj.step_eq_join`, for every state), and the Spec carries its `isSplit` flag along (`specStep_flag`).

About the statement. `Session_step_refines` without a hypothesis on `op` is FALSE for the model: `decrypt_server_header` / `decrypt_client_header` /
`attempt_decrypt_server_header` take `[u8; 4]` / `[u8; 6]` in Rust; the model (and `hdrOp`) take byte lists
and reach the parsers' `"header array length"` panic on any other length (`Session_step_needs_array_lengths`).
The hypothesis `op.WF` (`HOp.WF`, Model/Session.lean) says exactly "array arguments have their Rust length"
and nothing else; it is decidable, and true of everything the Rust type checker accepts.
-/
import WowSrp.Spec.Session
import WowSrp.Lemmas.HeaderSpec
import WowSrp.Lemmas.Out
namespace WowSrp
open Spec (Stream Ciphers SpecState specStep specRun)

/-- the abstraction function: each half read as its Spec stream (`Half.abs`, `Rc4.abs`), the flag from the form -/
def HObj.abs : HObj → SpecState
  | .comb e hc => ⟨.vt e hc.encrypt.abs hc.decrypt.abs, false⟩
  | .halves e en de => ⟨.vt e en.abs de.abs, true⟩
  | .wcli c => ⟨.wcli c.encrypt.abs c.decrypt.rc4.abs c.decrypt.header, false⟩
  | .wcliH en de => ⟨.wcli en.abs de.rc4.abs de.header, true⟩
  | .wsrv c => ⟨.wsrv c.encrypt.rc4.abs c.decrypt.abs, false⟩
  | .wsrvH en de => ⟨.wsrv en.rc4.abs de.abs, true⟩

/-- well-formedness: key lengths 40 (Vanilla) / 20 (TBC), positions inside the key, both halves hold
    the same key; RC4 tables have their 256 entries (`Rc4.Inv`), the client's stash its 4 bytes -/
def HObj.WF : HObj → Prop
  | .comb e hc => hc.encrypt.WF e ∧ hc.decrypt.WF e ∧ hc.encrypt.key = hc.decrypt.key
  | .halves e en de => en.WF e ∧ de.WF e ∧ en.key = de.key
  | .wcli c => c.encrypt.Inv ∧ c.decrypt.rc4.Inv ∧ c.decrypt.header.length = 4
  | .wcliH en de => en.Inv ∧ de.rc4.Inv ∧ de.header.length = 4
  | .wsrv c => c.encrypt.rc4.Inv ∧ c.decrypt.Inv
  | .wsrvH en de => en.rc4.Inv ∧ de.Inv

theorem halves_step (e : Exp) (en de : Half) (op : HOp) (hop : op.WF) (h : (HObj.halves e en de).WF) :
    ∃ o' out, (HObj.halves e en de).step op = .ok (o', out) ∧ o'.WF ∧
      specStep (HObj.halves e en de).abs op = (o'.abs, out) := by
  obtain ⟨hen, hde, hk⟩ := h
  have hen' := fun c => Half.ofStream_after_WF e en hen c
  have hde' := fun c => Half.ofStream_after_WF e de hde c
  cases op with
  | enc d | encServer s o | encClient s o =>
    simp only [HObj.step, HObj.enc, Half.encryptServerHeader, Half.encryptClientHeader, Half.encrypt_eq e en hen,
      Out.bind_ok, Out.pure_eq]
    exact ⟨_, _, rfl, ⟨hen' _, hde, hk⟩, rfl⟩
  | dec d =>
    simp only [HObj.step, HObj.dec, Half.decrypt_eq e de hde, Out.bind_ok, Out.pure_eq]
    exact ⟨_, _, rfl, ⟨hen, hde' _, hk⟩, rfl⟩
  | decServer w =>
    simp only [HObj.step, Half.decryptServerHeader_eq e de hde w hop, Out.bind_ok, Out.pure_eq]
    exact ⟨_, _, rfl, ⟨hen, hde' _, hk⟩, rfl⟩
  | decClient w =>
    simp only [HObj.step, Half.decryptClientHeader_eq e de hde w hop, Out.bind_ok, Out.pure_eq]
    exact ⟨_, _, rfl, ⟨hen, hde' _, hk⟩, rfl⟩
  | readServer script =>
    obtain ⟨r, h1, ⟨h2, h3⟩, h4⟩ := readThen_refines (Half.decryptServerHeader e) de 4 script (.vt e en.abs de.abs)
      (fun d => d.WF e ∧ d.key = de.key) (fun d => .vt e en.abs d.abs) rfl ⟨hde, rfl⟩
      (fun w hl => ⟨_, Half.decryptServerHeader_eq e de hde w hl, ⟨hde' _, rfl⟩, rfl⟩)
    refine ⟨.halves e en r.state, rdOut de script r, ?_, ⟨hen, h2, hk.trans h3.symm⟩, ?_⟩
    · simp only [HObj.step, Half.readServerHeader_eq_readThen, h1, Out.bind_ok, Out.pure_eq]
    · simp only [specStep, HObj.abs, Ciphers.step, Ciphers.plainOf, h4]
  | readClient script =>
    obtain ⟨r, h1, ⟨h2, h3⟩, h4⟩ := readThen_refines (Half.decryptClientHeader e) de 6 script (.vt e en.abs de.abs)
      (fun d => d.WF e ∧ d.key = de.key) (fun d => .vt e en.abs d.abs) rfl ⟨hde, rfl⟩
      (fun w hl => ⟨_, Half.decryptClientHeader_eq e de hde w hl, ⟨hde' _, rfl⟩, rfl⟩)
    refine ⟨.halves e en r.state, rdOut de script r, ?_, ⟨hen, h2, hk.trans h3.symm⟩, ?_⟩
    · simp only [HObj.step, Half.readClientHeader_eq_readThen, h1, Out.bind_ok, Out.pure_eq]
    · simp only [specStep, HObj.abs, Ciphers.step, Ciphers.plainOf, h4]
  | writeServer s o script =>
    simp only [HObj.step, Half.writeServerHeader, Half.encryptServerHeader, Half.encrypt_eq e en hen, Out.bind_ok, Out.pure_eq,
      (wrOut_writeAll _ s o script _).1]
    exact ⟨_, _, rfl, ⟨hen' _, hde, hk⟩, rfl⟩
  | writeClient s o script =>
    simp only [HObj.step, Half.writeClientHeader, Half.encryptClientHeader, Half.encrypt_eq e en hen, Out.bind_ok, Out.pure_eq,
      (wrOut_writeAll _ s o script _).2]
    exact ⟨_, _, rfl, ⟨hen' _, hde, hk⟩, rfl⟩
  | unsplit =>
    cases e with
    | tbc => exact ⟨_, _, rfl, ⟨hen, hde, hk⟩, rfl⟩
    | vanilla =>
      have : en.unsplit de = some ⟨de, en⟩ := by simp [Half.unsplit, Half.isPairOf, hk]
      simp only [HObj.step, this]
      exact ⟨_, _, rfl, ⟨hen, hde, hk⟩, rfl⟩
  | _ => exact ⟨_, _, rfl, ⟨hen, hde, hk⟩, rfl⟩   -- no such method on this object, `split`, `clone`

theorem wcliH_step (en : Rc4) (de : WClientDec) (op : HOp) (hop : op.WF) (h : (HObj.wcliH en de).WF) :
    ∃ o' out, (HObj.wcliH en de).step op = .ok (o', out) ∧ o'.WF ∧
      specStep (HObj.wcliH en de).abs op = (o'.abs, out) := by
  obtain ⟨hen, hde, hh⟩ := h
  have hen' := fun n => Rc4.advance_inv n _ hen
  have hde' := fun n => Rc4.advance_inv n _ hde
  cases op with
  | enc d | encClient s o =>
    simp only [HObj.step, HObj.enc, wClientEncryptHeader, Rc4.apply_eq_crypt _ hen, Out.bind_ok, Out.pure_eq]
    refine ⟨_, _, rfl, ⟨hen' _, hde, hh⟩, ?_⟩
    simp only [specStep, HObj.abs, Ciphers.step, Ciphers.plainOf, Ciphers.encrypt, Spec.emit, Rc4.abs_crypt_fst]
  | dec d =>
    simp only [HObj.step, HObj.dec, WClientDec.decrypt, Rc4.apply_eq_crypt _ hde, Out.bind_ok, Out.pure_eq]
    refine ⟨_, _, rfl, ⟨hen, hde' _, hh⟩, ?_⟩
    simp only [specStep, HObj.abs, Ciphers.step, Ciphers.plainOf, Ciphers.decrypt, Rc4.abs_crypt_fst]
  | readServer script =>
    obtain ⟨r, h1, h2, h3, h4⟩ := de.readServerHeader_refines en.abs hde hh script
    refine ⟨.wcliH en r.state, rdOut de script r, ?_, ⟨hen, h2, h3⟩, ?_⟩
    · simp only [HObj.step, h1, Out.bind_ok, Out.pure_eq]
    · simp only [specStep, HObj.abs, Ciphers.step, Ciphers.plainOf, h4]
  | writeClient s o script =>
    simp only [HObj.step, wClientWriteHeader, wClientEncryptHeader, Rc4.apply_eq_crypt _ hen, Out.bind_ok, Out.pure_eq,
      (wrOut_writeAll _ s o script _).2]
    refine ⟨_, _, rfl, ⟨hen' _, hde, hh⟩, ?_⟩
    simp only [specStep, HObj.abs, Ciphers.step, Ciphers.plainOf, Ciphers.encrypt, Rc4.abs_crypt_fst]
  | attempt w =>
    simp only [HObj.step, WClientDec.attempt_eq de hde w hop, Out.bind_ok, Out.pure_eq]
    by_cases hlg : Spec.isLarge (de.rc4.abs.crypt w).2 = true
    · simp only [hlg, if_true]
      refine ⟨_, _, rfl, ⟨hen, hde' _, (Spec.Rc4.crypt_length _ _).trans hop⟩, ?_⟩
      simp only [specStep, HObj.abs, Ciphers.step, Ciphers.plainOf, hlg, if_true, attemptOut, Rc4.abs_crypt_fst]
    · simp only [hlg, Bool.false_eq_true, if_false]
      refine ⟨_, _, rfl, ⟨hen, hde' _, hh⟩, ?_⟩
      simp only [specStep, HObj.abs, Ciphers.step, Ciphers.plainOf, hlg, Bool.false_eq_true, if_false, attemptOut,
        Rc4.abs_crypt_fst]
  | large b =>
    simp only [HObj.step, WClientDec.decryptLarge_eq de hde hh, Out.bind_ok, Out.pure_eq]
    refine ⟨_, _, rfl, ⟨hen, hde' _, hh⟩, ?_⟩
    simp only [specStep, HObj.abs, Ciphers.step, Ciphers.plainOf, Rc4.abs_crypt_fst, List.length_cons, List.length_nil]
  | _ => exact ⟨_, _, rfl, ⟨hen, hde, hh⟩, rfl⟩

theorem wsrvH_step (en : WServerEnc) (de : Rc4) (op : HOp) (hop : op.WF) (h : (HObj.wsrvH en de).WF) :
    ∃ o' out, (HObj.wsrvH en de).step op = .ok (o', out) ∧ o'.WF ∧
      specStep (HObj.wsrvH en de).abs op = (o'.abs, out) := by
  obtain ⟨hen, hde⟩ := h
  have hen' := fun n => Rc4.advance_inv n _ hen
  have hde' := fun n => Rc4.advance_inv n _ hde
  cases op with
  | enc d =>
    simp only [HObj.step, HObj.enc, WServerEnc.encrypt, Rc4.apply_eq_crypt _ hen, Out.bind_ok, Out.pure_eq]
    refine ⟨_, _, rfl, ⟨hen' _, hde⟩, ?_⟩
    simp only [specStep, HObj.abs, Ciphers.step, Ciphers.plainOf, Ciphers.encrypt, Spec.emit, Rc4.abs_crypt_fst]
  | dec d =>
    simp only [HObj.step, HObj.dec, Rc4.apply_eq_crypt _ hde, Out.bind_ok, Out.pure_eq]
    refine ⟨_, _, rfl, ⟨hen, hde' _⟩, ?_⟩
    simp only [specStep, HObj.abs, Ciphers.step, Ciphers.plainOf, Ciphers.decrypt, Rc4.abs_crypt_fst]
  | encServer s o =>
    simp only [HObj.step, WServerEnc.encryptServerHeader_eq _ hen, Out.bind_ok, Out.pure_eq]
    refine ⟨_, _, rfl, ⟨hen' _, hde⟩, ?_⟩
    simp only [specStep, HObj.abs, Ciphers.step, Ciphers.plainOf, Ciphers.encrypt, Spec.emit, Rc4.abs_crypt_fst]
  | decClient w =>
    simp only [HObj.step, wServerDecryptHeader_eq _ hde w hop, Out.bind_ok, Out.pure_eq]
    refine ⟨_, _, rfl, ⟨hen, hde' _⟩, ?_⟩
    simp only [specStep, HObj.abs, Ciphers.step, Ciphers.plainOf, Ciphers.decHeader, Ciphers.decrypt, Rc4.abs_crypt_fst]
  | readClient script =>
    obtain ⟨r, h1, h2, h4⟩ := readThen_refines wServerDecryptHeader de 6 script (.wsrv en.rc4.abs de.abs)
      Rc4.Inv (fun d => .wsrv en.rc4.abs d.abs) rfl hde
      (fun w hl => ⟨_, wServerDecryptHeader_eq de hde w hl, hde' _, by simp only [Ciphers.decrypt, Rc4.abs_crypt_fst]⟩)
    refine ⟨.wsrvH en r.state, rdOut de script r, ?_, ⟨hen, h2⟩, ?_⟩
    · simp only [HObj.step, wServerReadHeader_eq_readThen, h1, Out.bind_ok, Out.pure_eq]
    · simp only [specStep, HObj.abs, Ciphers.step, Ciphers.plainOf, h4]
  | writeServer s o script =>
    simp only [HObj.step, WServerEnc.writeServerHeader, WServerEnc.encryptServerHeader_eq _ hen, Out.bind_ok, Out.pure_eq,
      (wrOut_writeAll _ s o script _).1]
    refine ⟨_, _, rfl, ⟨hen' _, hde⟩, ?_⟩
    simp only [specStep, HObj.abs, Ciphers.step, Ciphers.plainOf, Ciphers.encrypt, Rc4.abs_crypt_fst]
  | _ => exact ⟨_, _, rfl, ⟨hen, hde⟩, rfl⟩

/-- what `split` makes of an object -/
def HObj.halvesOf : HObj → HObj
  | .comb e hc => .halves e hc.encrypt hc.decrypt
  | .wcli c => .wcliH c.encrypt c.decrypt
  | .wsrv c => .wsrvH c.encrypt c.decrypt
  | o => o

/-- its inverse: the two halves as the fields of one object -/
def HObj.join : HObj → HObj
  | .halves e en de => .comb e ⟨de, en⟩
  | .wcliH en de => .wcli ⟨de, en⟩
  | .wsrvH en de => .wsrv ⟨de, en⟩
  | o => o

theorem HObj.abs_halvesOf (o : HObj) : o.halvesOf.abs = ⟨o.abs.ciphers, true⟩ := by cases o <;> rfl
theorem HObj.abs_join (o : HObj) : o.join.abs = ⟨o.abs.ciphers, false⟩ := by cases o <;> rfl
theorem HObj.WF_halvesOf (o : HObj) : o.halvesOf.WF ↔ o.WF := by cases o <;> exact Iff.rfl
theorem HObj.WF_join (o : HObj) : o.join.WF ↔ o.WF := by cases o <;> exact Iff.rfl

/-- "the state is the one before the call", asked of an object or of the one field the call can change -/
theorem rdOut_field {σ τ} [DecidableEq σ] [DecidableEq τ] (put : τ → σ) (hput : ∀ a b, put a = put b → a = b)
    (old : τ) (script : List REv) (r : IoRes τ (Nat × Nat) (List REv)) :
    rdOut (put old) script ⟨put r.state, r.result, r.rest⟩ = rdOut old script r := by
  unfold rdOut
  cases r.result with
  | ok v => rfl
  | error k =>
    have : (put r.state = put old) = (r.state = old) := propext ⟨hput _ _, congrArg put⟩
    simp only [this]

/-- **every method of a combined object is the method of its halves, re-packed** — any state, panics
    included: the facade equations (Lemmas/Facade), binds re-associated. `hs` says that `o` is one of the three
    combined forms. -/
theorem HObj.step_eq_join (o : HObj) (hs : o.abs.isSplit = false) (op : HOp) (h1 : op ≠ .split) (h2 : op ≠ .unsplit) :
    o.step op = (o.halvesOf.step op).mapOk fun r => (r.1.join, r.2) := by
  cases o with
  | halves | wcliH | wsrvH => cases hs
  | comb e hc =>
    cases op with
    | split | unsplit => contradiction
    | attempt | large | clone => rfl
    | _ =>
      simp only [HObj.step, HObj.enc, HObj.dec, HObj.halvesOf, HeaderCrypto.encryptData_eq, HeaderCrypto.decryptData_eq,
        HeaderCrypto.encryptServerHeader_eq, HeaderCrypto.encryptClientHeader_eq, HeaderCrypto.decryptServerHeader_eq,
        HeaderCrypto.decryptClientHeader_eq, HeaderCrypto.readServerHeader_eq, HeaderCrypto.readClientHeader_eq,
        HeaderCrypto.writeServerHeader_eq, HeaderCrypto.writeClientHeader_eq,
        Out.mapOk_eq_bind, Out.bind_assoc, Out.pure_eq, Out.bind_ok, HObj.join,
        rdOut_field (fun d => (⟨d, hc.encrypt⟩ : HeaderCrypto)) (fun _ _ h => (HeaderCrypto.mk.inj h).1) hc.decrypt] <;> rfl
  | wcli c =>
    cases op with
    | split | unsplit => contradiction
    | encServer | decServer | decClient | readClient | writeServer | clone => rfl
    | _ =>
      simp only [HObj.step, HObj.enc, HObj.dec, HObj.halvesOf, WClientCrypto.encryptData_eq, WClientCrypto.decryptData_eq,
        WClientCrypto.encryptClientHeader_eq, WClientCrypto.writeClientHeader_eq, WClientCrypto.attempt_eq,
        WClientCrypto.decryptLarge_eq, WClientCrypto.readServerHeader_eq,
        Out.mapOk_eq_bind, Out.bind_assoc, Out.pure_eq, Out.bind_ok, HObj.join,
        rdOut_field (fun d => (⟨d, c.encrypt⟩ : WClientCrypto)) (fun _ _ h => (WClientCrypto.mk.inj h).1) c.decrypt] <;> rfl
  | wsrv c =>
    cases op with
    | split | unsplit => contradiction
    | encClient | decServer | readServer | writeClient | attempt | large | clone => rfl
    | _ =>
      simp only [HObj.step, HObj.enc, HObj.dec, HObj.halvesOf, WServerCrypto.encryptData_eq, WServerCrypto.decryptData_eq,
        WServerCrypto.encryptServerHeader_eq, WServerCrypto.writeServerHeader_eq, WServerCrypto.decryptClientHeader_eq,
        WServerCrypto.readClientHeader_eq,
        Out.mapOk_eq_bind, Out.bind_assoc, Out.pure_eq, Out.bind_ok, HObj.join,
        rdOut_field (fun d => (⟨d, c.encrypt⟩ : WServerCrypto)) (fun _ _ h => (WServerCrypto.mk.inj h).1) c.decrypt] <;> rfl

/-- the Spec carries the flag along: but for `split` / `unsplit`, a step under flag `b` is the step under any
    other flag `b'` with `b` put back -/
theorem specStep_flag (c : Ciphers) (b b' : Bool) (op : HOp) (h1 : op ≠ .split) (h2 : op ≠ .unsplit) :
    specStep ⟨c, b⟩ op = (⟨(specStep ⟨c, b'⟩ op).1.ciphers, b⟩, (specStep ⟨c, b'⟩ op).2) := by
  cases op with
  | split | unsplit => contradiction
  | clone => rfl
  | _ => simp only [specStep] <;> cases c.step _ <;> rfl

/-- the refinement step for a combined object from the one for its halves (`H`): `split` and `unsplit` by
    hand, every other op through `HObj.step_eq_join` on the model side and `specStep_flag` on the Spec side -/
theorem step_refines_of_halves (o : HObj) (hs : o.abs.isSplit = false) (h : o.WF) (op : HOp)
    (H : ∃ h' out, o.halvesOf.step op = .ok (h', out) ∧ h'.WF ∧ specStep o.halvesOf.abs op = (h'.abs, out)) :
    ∃ o' out, o.step op = .ok (o', out) ∧ o'.WF ∧ specStep o.abs op = (o'.abs, out) := by
  have e : o.abs = ⟨o.abs.ciphers, false⟩ := by rw [← hs]
  by_cases h1 : op = .split
  · subst h1
    exact ⟨o.halvesOf, .done, by cases o <;> rfl, o.WF_halvesOf.mpr h, by rw [o.abs_halvesOf]; rfl⟩
  by_cases h2 : op = .unsplit
  · subst h2
    refine ⟨o, .na, ?_, h, by rw [e]; simp [specStep]⟩
    cases o with
    | halves | wcliH | wsrvH => cases hs
    | _ => rfl
  obtain ⟨h', out, hstep, hwf, hspec⟩ := H
  refine ⟨h'.join, out, ?_, h'.WF_join.mpr hwf, ?_⟩
  · rw [o.step_eq_join hs op h1 h2, hstep]; rfl
  · rw [o.abs_halvesOf] at hspec
    rw [e, specStep_flag _ false true op h1 h2, hspec, h'.abs_join]

/-- **one op**: from a well-formed object, an op whose array arguments have their Rust lengths never
    panics, leaves a well-formed object, and answers / moves exactly as the Spec session does -/
theorem Session_step_refines (o : HObj) (op : HOp) (h : o.WF) (hop : op.WF) :
    ∃ o' out, o.step op = .ok (o', out) ∧ o'.WF ∧ specStep o.abs op = (o'.abs, out) := by
  cases o with
  | halves e en de => exact halves_step e en de op hop h
  | wcliH en de => exact wcliH_step en de op hop h
  | wsrvH en de => exact wsrvH_step en de op hop h
  | comb e hc => exact step_refines_of_halves _ rfl h op (halves_step e _ _ op hop h)
  | wcli c => exact step_refines_of_halves _ rfl h op (wcliH_step _ _ op hop h)
  | wsrv c => exact step_refines_of_halves _ rfl h op (wsrvH_step _ _ op hop h)

/-- **every op list** -/
theorem Session_run_refines (o : HObj) (ops : List HOp) (h : o.WF) (hops : ∀ op ∈ ops, op.WF) :
    ∃ o' outs, o.run ops = .ok (o', outs) ∧ o'.WF ∧ specRun o.abs ops = (o'.abs, outs) := by
  induction ops generalizing o with
  | nil => exact ⟨o, [], rfl, h, rfl⟩
  | cons op ops ih =>
    obtain ⟨o1, out, hs, hw1, hspec⟩ := Session_step_refines o op h (hops op (List.mem_cons_self ..))
    obtain ⟨o2, outs, hr, hw2, hspecs⟩ := ih o1 hw1 (fun x hx => hops x (List.mem_cons_of_mem _ hx))
    refine ⟨o2, out :: outs, ?_, hw2, ?_⟩
    · simp only [HObj.run, hs, hr, Out.bind_ok, Out.pure_eq]
    · simp only [specRun, hspec, hspecs]

/-- the hypothesis `op.WF` cannot be dropped: the statement without it is false for the model,
    because `decrypt_server_header` takes a `[u8; 4]` and the model's array parser panics on any other
    length (the Rust type makes this unreachable; the string protocol of the driver does not) -/
theorem Session_step_needs_array_lengths :
    ∃ (o : HObj) (op : HOp) (p : String), o.WF ∧ o.step op = .panic p := by
  refine ⟨.halves .vanilla ⟨List.replicate 40 0, 0, 0⟩ ⟨List.replicate 40 0, 0, 0⟩, .decServer [], _, ?_, rfl⟩
  exact ⟨⟨rfl, by decide⟩, ⟨rfl, by decide⟩, rfl⟩

theorem WF_fresh_vanilla (C : Crypto) (K : Bytes) (hK : K.length = 40) :
    (HObj.comb .vanilla (HeaderCrypto.new C .vanilla K)).WF ∧
    (HObj.comb .vanilla (HeaderCrypto.new C .vanilla K)).abs = ⟨.vt .vanilla ⟨K, 0, 0⟩ ⟨K, 0, 0⟩, false⟩ :=
  ⟨⟨⟨hK, (by decide : 0 < 40)⟩, ⟨hK, (by decide : 0 < 40)⟩, rfl⟩, rfl⟩

theorem WF_fresh_tbc (C : Crypto) (hC : C.WF) (K : Bytes) :
    (HObj.comb .tbc (HeaderCrypto.new C .tbc K)).WF ∧
    (HObj.comb .tbc (HeaderCrypto.new C .tbc K)).abs =
      ⟨.vt .tbc ⟨C.hmac Gen.tbcSeedEnc K, 0, 0⟩ ⟨C.hmac Gen.tbcSeedEnc K, 0, 0⟩, false⟩ :=
  ⟨⟨⟨hC.hmac_len _ _, (by decide : 0 < 20)⟩, ⟨hC.hmac_len _ _, (by decide : 0 < 20)⟩, rfl⟩, rfl⟩

/-- the Spec generator a Wrath half starts from: RC4 keyed with HMAC(direction constant, K), first 1024 bytes dropped -/
def wrathInit (C : Crypto) (key K : Bytes) : Spec.Rc4 :=
  Spec.Rc4.advance 1024 (Spec.Rc4.init ((C.hmac key K).map UInt8.toNat))

theorem WF_fresh_wcli (C : Crypto) (hC : C.WF) (K : Bytes) :
    ∃ c, WClientCrypto.new C K = .ok c ∧ (HObj.wcli c).WF ∧
      (HObj.wcli c).abs = ⟨.wcli (wrathInit C Gen.wrathS K) (wrathInit C Gen.wrathR K) [0, 0, 0, 0], false⟩ :=
  ⟨_, WClientCrypto.new_eq C K, ⟨wrathGen_inv .., wrathGen_inv .., rfl⟩, by
    simp only [HObj.abs, wrathGen_abs C hC, wrathInit]; rfl⟩

theorem WF_fresh_wsrv (C : Crypto) (hC : C.WF) (K : Bytes) :
    ∃ c, WServerCrypto.new C K = .ok c ∧ (HObj.wsrv c).WF ∧
      (HObj.wsrv c).abs = ⟨.wsrv (wrathInit C Gen.wrathR K) (wrathInit C Gen.wrathS K), false⟩ :=
  ⟨_, WServerCrypto.new_eq C K, ⟨wrathGen_inv .., wrathGen_inv ..⟩, by simp only [HObj.abs, wrathGen_abs C hC, wrathInit]⟩

/-- **fresh objects are well formed**, under the hypotheses the constructors' own lemmas need -/
theorem WF_fresh (C : Crypto) (K : Bytes) :
    (K.length = 40 → (HObj.comb .vanilla (HeaderCrypto.new C .vanilla K)).WF) ∧
    (C.WF → (HObj.comb .tbc (HeaderCrypto.new C .tbc K)).WF) ∧
    (∃ c, WClientCrypto.new C K = .ok c ∧ (HObj.wcli c).WF) ∧
    (∃ c, WServerCrypto.new C K = .ok c ∧ (HObj.wsrv c).WF) :=
  ⟨fun hK => (WF_fresh_vanilla C K hK).1, fun hC => (WF_fresh_tbc C hC K).1,
   ⟨_, WClientCrypto.new_eq C K, wrathGen_inv .., wrathGen_inv .., rfl⟩,
   ⟨_, WServerCrypto.new_eq C K, wrathGen_inv .., wrathGen_inv ..⟩⟩

/-! The two directions of a session. `EncSt` / `DecSt`: which kind of object, and the one cipher stream of the
direction; one call pushes bytes through it and returns the new position and the output. The two are the same
type twice, and so is everything down to `HObj.abs_reduced`: what (b) and (b') need of one call, each fact
read off `Spec.Stream.*` / `Spec.Rc4.crypt_*`. -/

inductive EncSt where
  | vt (e : Exp) (s : Stream)
  | wcli (r : Spec.Rc4)
  | wsrv (r : Spec.Rc4)
deriving DecidableEq, Repr

inductive DecSt where
  | vt (e : Exp) (s : Stream)
  | wcli (r : Spec.Rc4)
  | wsrv (r : Spec.Rc4)
deriving DecidableEq, Repr

def Spec.Ciphers.encPart : Ciphers → EncSt
  | .vt e en _ => .vt e en
  | .wcli en _ _ => .wcli en
  | .wsrv en _ => .wsrv en

def Spec.Ciphers.decPart : Ciphers → DecSt
  | .vt e _ de => .vt e de
  | .wcli _ de _ => .wcli de
  | .wsrv _ de => .wsrv de

def EncSt.encrypt : EncSt → Bytes → EncSt × Bytes
  | .vt e s, xs => (.vt e (s.encrypt xs).1, (s.encrypt xs).2)
  | .wcli r, xs => (.wcli (r.crypt xs).1, (r.crypt xs).2)
  | .wsrv r, xs => (.wsrv (r.crypt xs).1, (r.crypt xs).2)

def DecSt.decrypt : DecSt → Bytes → DecSt × Bytes
  | .vt e s, w => (.vt e (s.decrypt w).1, (s.decrypt w).2)
  | .wcli r, w => (.wcli (r.crypt w).1, (r.crypt w).2)
  | .wsrv r, w => (.wsrv (r.crypt w).1, (r.crypt w).2)

theorem EncSt.encrypt_append (E : EncSt) (a b : Bytes) :
    E.encrypt (a ++ b) = (((E.encrypt a).1.encrypt b).1, (E.encrypt a).2 ++ ((E.encrypt a).1.encrypt b).2) := by
  cases E <;> simp only [EncSt.encrypt, Spec.Stream.encrypt_append, Spec.Rc4.crypt_append]

theorem DecSt.decrypt_append (D : DecSt) (a b : Bytes) :
    D.decrypt (a ++ b) = (((D.decrypt a).1.decrypt b).1, (D.decrypt a).2 ++ ((D.decrypt a).1.decrypt b).2) := by
  cases D <;> simp only [DecSt.decrypt, Spec.Stream.decrypt_append, Spec.Rc4.crypt_append]

theorem EncSt.encrypt_length (E : EncSt) (a : Bytes) : (E.encrypt a).2.length = a.length := by
  cases E with
  | vt e s => exact s.encrypt_length a
  | _ => exact Spec.Rc4.crypt_length _ a

theorem DecSt.decrypt_length (D : DecSt) (a : Bytes) : (D.decrypt a).2.length = a.length := by
  cases D with
  | vt e s => exact s.decrypt_length a
  | _ => exact Spec.Rc4.crypt_length _ a

theorem EncSt.encrypt_nil (E : EncSt) : (E.encrypt []).2 = [] :=
  List.eq_nil_of_length_eq_zero (E.encrypt_length [])

/-- the position of a Vanilla/TBC stream is kept reduced mod the key length (`Stream.after` reduces it, so
    only then does an empty call change nothing) -/
def EncSt.Reduced : EncSt → Prop
  | .vt _ s => s.n < s.key.length
  | _ => True

def DecSt.Reduced : DecSt → Prop
  | .vt _ s => s.n < s.key.length
  | _ => True

theorem EncSt.encrypt_nil_fst (E : EncSt) (h : E.Reduced) : (E.encrypt []).1 = E := by
  cases E with
  | vt e s => exact congrArg (EncSt.vt e) (s.after_nil h)
  | _ => rfl

theorem DecSt.decrypt_nil_fst (D : DecSt) (h : D.Reduced) : (D.decrypt []).1 = D := by
  cases D with
  | vt e s => exact congrArg (DecSt.vt e) (s.after_nil h)
  | _ => rfl

theorem EncSt.encrypt_reduced (E : EncSt) (h : E.Reduced) (a : Bytes) : (E.encrypt a).1.Reduced := by
  cases E with
  | vt e s => exact s.after_lt h _
  | _ => trivial

theorem DecSt.decrypt_reduced (D : DecSt) (h : D.Reduced) (a : Bytes) : (D.decrypt a).1.Reduced := by
  cases D with
  | vt e s => exact s.after_lt h _
  | _ => trivial

theorem HObj.abs_reduced (o : HObj) (h : o.WF) :
    o.abs.ciphers.encPart.Reduced ∧ o.abs.ciphers.decPart.Reduced := by
  cases o with
  | comb e hc => exact ⟨h.1.lt, h.2.1.lt⟩
  | halves e en de => exact ⟨h.1.lt, h.2.1.lt⟩
  | _ => exact ⟨trivial, trivial⟩

/-- `Ciphers.plainOf` looks at the kind of object only -/
def EncSt.plainOf : EncSt → HOp → Option Bytes
  | .vt e s, op => (Ciphers.vt e s s).plainOf op
  | .wcli r, op => (Ciphers.wcli r r []).plainOf op
  | .wsrv r, op => (Ciphers.wsrv r r).plainOf op

theorem Spec.Ciphers.readHeader_encPart (c : Ciphers) (n : Nat) (script : List REv) :
    (c.readHeader n script).1.encPart = c.encPart := by
  unfold Ciphers.readHeader
  cases readExact script n [] with
  | mk res rest =>
    cases res with
    | error k => rfl
    | ok wire => cases c <;> rfl

theorem wrathReadServer_encPart (en de : Spec.Rc4) (stash : Bytes) (script : List REv) :
    (Spec.wrathReadServer en de stash script).1.encPart = .wcli en := by
  unfold Spec.wrathReadServer
  cases readExact script 4 [] with
  | mk res rest =>
    cases res with
    | error k => rfl
    | ok wire =>
      simp only
      split
      · rfl
      · cases readExact rest 1 [] with
        | mk res2 rest2 => cases res2 <;> rfl

/-- one op of a session, seen from the encrypt direction: an encrypt-side op encrypts its plaintext and
    shows the ciphertext through `emit`; any other op does not touch the direction -/
theorem specStep_encPart (s : SpecState) (op : HOp) :
    match s.ciphers.encPart.plainOf op with
    | some p => (specStep s op).1.ciphers.encPart = (s.ciphers.encPart.encrypt p).1 ∧
        (specStep s op).2 = Spec.emit op (s.ciphers.encPart.encrypt p).2
    | none => (specStep s op).1.ciphers.encPart = s.ciphers.encPart := by
  obtain ⟨c, b⟩ := s
  cases c with
  | vt e en de =>
    cases op with
    | enc d | encServer s o | encClient s o | writeServer s o script | writeClient s o script => exact ⟨rfl, rfl⟩
    | readServer script => exact (Ciphers.vt e en de).readHeader_encPart 4 script
    | readClient script => exact (Ciphers.vt e en de).readHeader_encPart 6 script
    | unsplit => cases b <;> cases e <;> rfl
    | _ => rfl
  | wsrv en de =>
    cases op with
    | enc d | encServer s o | writeServer s o script => exact ⟨rfl, rfl⟩
    | readClient script => exact (Ciphers.wsrv en de).readHeader_encPart 6 script
    | unsplit => cases b <;> rfl
    | _ => rfl
  | wcli en de st =>
    cases op with
    | enc d | encClient s o | writeClient s o script => exact ⟨rfl, rfl⟩
    | readServer script => exact wrathReadServer_encPart en de st script
    | attempt w => show (if _ then _ else _ : Ciphers × HOut).1.encPart = _; split <;> rfl
    | unsplit => cases b <;> rfl
    | _ => rfl

theorem EncSt.plainOf_encrypt (E : EncSt) (a : Bytes) : (E.encrypt a).1.plainOf = E.plainOf := by
  funext op
  cases E <;> cases op <;> rfl

/-- all plaintext an op list pushes through the encrypt direction, in order (`pl`: `plainOf` of the object) -/
def encInput (pl : HOp → Option Bytes) : List HOp → Bytes
  | [] => []
  | op :: ops => (pl op).getD [] ++ encInput pl ops

/-- the answers to the encrypt-side ops of a list, cut out of one ciphertext stream -/
def encAnswers (pl : HOp → Option Bytes) : List HOp → Bytes → List HOut
  | [], _ => []
  | op :: ops, cipher =>
    match pl op with
    | some p => Spec.emit op (cipher.take p.length) :: encAnswers pl ops (cipher.drop p.length)
    | none => encAnswers pl ops cipher

/-- the answers of a run that belong to its encrypt-side ops -/
def encSide (pl : HOp → Option Bytes) : List HOp → List HOut → List HOut
  | op :: ops, out :: outs => if (pl op).isSome then out :: encSide pl ops outs else encSide pl ops outs
  | _, _ => []

/-- Spec level: the encrypt-side answers of any op list are cut out of the encryption of the
    concatenated plaintext in one go — whatever decrypt-side ops, splits, clones happen in between —,
    and the direction ends where that one call ends -/
theorem specRun_encrypt_side (s : SpecState) (ops : List HOp) :
    encSide s.ciphers.encPart.plainOf ops (specRun s ops).2 =
      encAnswers s.ciphers.encPart.plainOf ops
        (s.ciphers.encPart.encrypt (encInput s.ciphers.encPart.plainOf ops)).2 ∧
    (s.ciphers.encPart.Reduced → (specRun s ops).1.ciphers.encPart =
      (s.ciphers.encPart.encrypt (encInput s.ciphers.encPart.plainOf ops)).1) := by
  induction ops generalizing s with
  | nil => exact ⟨rfl, fun hr => (EncSt.encrypt_nil_fst _ hr).symm⟩
  | cons op ops ih =>
    have hstep := specStep_encPart s op
    obtain ⟨ih1, ih2⟩ := ih (specStep s op).1
    simp only [specRun]
    cases hp : s.ciphers.encPart.plainOf op with
    | some p =>
      rw [hp] at hstep
      obtain ⟨h1, h2⟩ := hstep
      rw [h1, EncSt.plainOf_encrypt] at ih1 ih2
      simp only [encSide, hp, Option.isSome_some, if_true, encInput, Option.getD_some, encAnswers,
        EncSt.encrypt_append]
      have hl := s.ciphers.encPart.encrypt_length p
      exact ⟨by rw [← hl, List.take_left, List.drop_left, ih1, h2], fun hr => ih2 (EncSt.encrypt_reduced _ hr _)⟩
    | none =>
      rw [hp] at hstep
      rw [hstep] at ih1 ih2
      simp only [encSide, hp, Option.isSome_none, Bool.false_eq_true, if_false, encInput, Option.getD_none,
        List.nil_append, encAnswers]
      exact ⟨ih1, ih2⟩


/-- **(b)** for every object form and every op list: the answers at the encrypt-side ops (`enc`, the typed
    header encrypters, the write wrappers) are those of ONE encryption of the concatenated plaintext, cut
    at the op boundaries and shown through `emit`; the encrypt direction ends where that one call ends.
    The decrypt-side ops, `split`, `clone`, `unsplit` in between do not matter. -/
theorem Session_encrypt_side (o : HObj) (ops : List HOp) (h : o.WF) (hops : ∀ op ∈ ops, op.WF) :
    ∃ o' outs, o.run ops = .ok (o', outs) ∧
      encSide o.abs.ciphers.encPart.plainOf ops outs =
        encAnswers o.abs.ciphers.encPart.plainOf ops
          (o.abs.ciphers.encPart.encrypt (encInput o.abs.ciphers.encPart.plainOf ops)).2 ∧
      o'.abs.ciphers.encPart =
        (o.abs.ciphers.encPart.encrypt (encInput o.abs.ciphers.encPart.plainOf ops)).1 := by
  obtain ⟨o', outs, hrun, _, hspec⟩ := Session_run_refines o ops h hops
  obtain ⟨h1, h2⟩ := specRun_encrypt_side o.abs ops
  have h2 := h2 (o.abs_reduced h).1
  rw [hspec] at h1 h2
  exact ⟨o', outs, hrun, h1, h2⟩

/-- (b) spelled out for Vanilla/TBC: the one ciphertext stream is `recEnc` of the concatenation, from the
    object's current position -/
theorem Session_encrypt_side_vt (e : Exp) (hc : HeaderCrypto) (ops : List HOp) (h : (HObj.comb e hc).WF)
    (hops : ∀ op ∈ ops, op.WF) :
    ∃ o' outs, (HObj.comb e hc).run ops = .ok (o', outs) ∧
      encSide (EncSt.vt e hc.encrypt.abs).plainOf ops outs =
        encAnswers (EncSt.vt e hc.encrypt.abs).plainOf ops
          (Spec.recEnc hc.encrypt.key hc.encrypt.index hc.encrypt.prev
            (encInput (EncSt.vt e hc.encrypt.abs).plainOf ops)) := by
  obtain ⟨o', outs, hrun, h1, _⟩ := Session_encrypt_side (.comb e hc) ops h hops
  exact ⟨o', outs, hrun, h1⟩

/-- the ciphertext an answer carries (`bytes`) -/
def HOut.payload : HOut → Bytes
  | .bytes b => b
  | _ => []

def HOp.isWrite : HOp → Bool
  | .writeServer .. | .writeClient .. => true
  | _ => false

theorem encAnswers_payload (pl : HOp → Option Bytes) (ops : List HOp) (hw : ∀ op ∈ ops, op.isWrite = false)
    (cipher : Bytes) (hl : cipher.length = (encInput pl ops).length) :
    (encAnswers pl ops cipher).flatMap HOut.payload = cipher := by
  induction ops generalizing cipher with
  | nil =>
    simp only [encInput, List.length_nil] at hl
    simp [encAnswers, List.eq_nil_of_length_eq_zero hl]
  | cons op ops ih =>
    have hw' : ∀ x ∈ ops, x.isWrite = false := fun x hx => hw x (List.mem_cons_of_mem _ hx)
    have hop := hw op (List.mem_cons_self ..)
    simp only [encAnswers]
    cases hp : pl op with
    | none =>
      simp only [encInput, hp, Option.getD_none, List.nil_append] at hl
      exact ih hw' cipher hl
    | some p =>
      simp only [encInput, hp, Option.getD_some, List.length_append] at hl
      have hem : ∀ c, (Spec.emit op c).payload = c := by
        intro c; cases op <;> first | rfl | simp [HOp.isWrite] at hop
      simp only [List.flatMap_cons, hem]
      rw [ih hw' (cipher.drop p.length) (by rw [List.length_drop]; omega), List.take_append_drop]

/-- (b) in the words of the property: without write wrappers in the list, the ciphertexts answered at the
    encrypt-side ops, concatenated, are `recEnc` of the concatenated plaintexts — whatever happens on
    the decrypt side in between -/
theorem Session_encrypt_concat_vt (e : Exp) (hc : HeaderCrypto) (ops : List HOp) (h : (HObj.comb e hc).WF)
    (hops : ∀ op ∈ ops, op.WF) (hw : ∀ op ∈ ops, op.isWrite = false) :
    ∃ o' outs, (HObj.comb e hc).run ops = .ok (o', outs) ∧
      (encSide (EncSt.vt e hc.encrypt.abs).plainOf ops outs).flatMap HOut.payload =
        Spec.recEnc hc.encrypt.key hc.encrypt.index hc.encrypt.prev
          (encInput (EncSt.vt e hc.encrypt.abs).plainOf ops) := by
  obtain ⟨o', outs, hrun, h1⟩ := Session_encrypt_side_vt e hc ops h hops
  refine ⟨o', outs, hrun, ?_⟩
  rw [h1]
  exact encAnswers_payload _ ops hw _ (Spec.recEnc_length ..)

def EncSt.isVanilla : EncSt → Bool
  | .vt .vanilla _ => true
  | _ => false

theorem Spec.Ciphers.isVanilla_encPart (c : Ciphers) : c.isVanilla = c.encPart.isVanilla := by
  cases c with
  | vt e en de => cases e <;> rfl
  | wcli en de st => rfl
  | wsrv en de => rfl

theorem EncSt.isVanilla_encrypt (E : EncSt) (a : Bytes) : (E.encrypt a).1.isVanilla = E.isVanilla := by
  cases E with
  | vt e s => cases e <;> rfl
  | wcli r => rfl
  | wsrv r => rfl

theorem specStep_isVanilla (s : SpecState) (op : HOp) :
    (specStep s op).1.ciphers.isVanilla = s.ciphers.isVanilla := by
  have h := specStep_encPart s op
  rw [Ciphers.isVanilla_encPart, Ciphers.isVanilla_encPart]
  cases hp : s.ciphers.encPart.plainOf op with
  | some p => rw [hp] at h; rw [h.1, EncSt.isVanilla_encrypt]
  | none => rw [hp] at h; rw [h]

/-- the answers of a run at the ops that are not `unsplit` -/
def exceptUnsplit : List HOp → List HOut → List HOut
  | op :: ops, out :: outs => if op = .unsplit then exceptUnsplit ops outs else out :: exceptUnsplit ops outs
  | _, _ => []

/-- the `isSplit` flag is read by `unsplit` on a Vanilla session and by nothing else -/
theorem specStep_flag_out (c : Ciphers) (b₁ b₂ : Bool) (op : HOp) :
    (specStep ⟨c, b₁⟩ op).1.ciphers = (specStep ⟨c, b₂⟩ op).1.ciphers ∧
    (op ≠ .unsplit ∨ c.isVanilla = false → (specStep ⟨c, b₁⟩ op).2 = (specStep ⟨c, b₂⟩ op).2) := by
  by_cases h2 : op = .unsplit
  · subst h2
    simp only [specStep]
    cases c.isVanilla <;> cases b₁ <;> cases b₂ <;> simp
  by_cases h1 : op = .split
  · subst h1; exact ⟨rfl, fun _ => rfl⟩
  rw [specStep_flag c b₁ b₂ op h1 h2]
  exact ⟨rfl, fun _ => rfl⟩

/-- two runs that differ in the flag only: same streams at the end, same answers except to `unsplit`;
    all answers the same when there is no `unsplit` to answer or the session is not Vanilla -/
theorem specRun_flag (c : Ciphers) (b₁ b₂ : Bool) (ops : List HOp) :
    (specRun ⟨c, b₁⟩ ops).1.ciphers = (specRun ⟨c, b₂⟩ ops).1.ciphers ∧
    exceptUnsplit ops (specRun ⟨c, b₁⟩ ops).2 = exceptUnsplit ops (specRun ⟨c, b₂⟩ ops).2 ∧
    (HOp.unsplit ∉ ops ∨ c.isVanilla = false → (specRun ⟨c, b₁⟩ ops).2 = (specRun ⟨c, b₂⟩ ops).2) := by
  induction ops generalizing c b₁ b₂ with
  | nil => exact ⟨rfl, rfl, fun _ => rfl⟩
  | cons op ops ih =>
    obtain ⟨h1, h2⟩ := specStep_flag_out c b₁ b₂ op
    have hv := specStep_isVanilla ⟨c, b₁⟩ op
    simp only [specRun, exceptUnsplit]
    -- the two sessions after `op`: the same streams under two flags
    generalize specStep ⟨c, b₁⟩ op = r₁ at h1 h2 hv ⊢
    generalize specStep ⟨c, b₂⟩ op = r₂ at h1 h2 ⊢
    obtain ⟨⟨c₁, f₁⟩, o₁⟩ := r₁
    obtain ⟨⟨c₂, f₂⟩, o₂⟩ := r₂
    simp only at h1 h2 hv
    subst h1
    obtain ⟨i1, i2, i3⟩ := ih c₁ f₁ f₂
    refine ⟨i1, ?_, fun h => ?_⟩
    · split
      · exact i2
      · next hne => rw [h2 (.inl hne), i2]
    · have hop : op ≠ .unsplit ∨ c.isVanilla = false := h.imp (fun h e => h (e ▸ List.mem_cons_self ..)) id
      have hops : HOp.unsplit ∉ ops ∨ c₁.isVanilla = false :=
        h.imp (fun h hm => h (List.mem_cons_of_mem _ hm)) (fun h => hv.trans h)
      rw [h2 hop, i3 hops]

theorem specRun_length (s : SpecState) (ops : List HOp) : (specRun s ops).2.length = ops.length := by
  induction ops generalizing s with
  | nil => rfl
  | cons op ops ih => simp only [specRun, List.length_cons, ih]

/-- the general form of (a) and (a'): two well-formed objects with the same cipher streams, whatever their
    forms, run every op list without panic and keep the same streams; they answer alike except to `unsplit`,
    and to `unsplit` too when the session is not Vanilla -/
theorem Session_form_independent_general (o₁ o₂ : HObj) (h₁ : o₁.WF) (h₂ : o₂.WF)
    (habs : o₁.abs.ciphers = o₂.abs.ciphers) (ops : List HOp) (hops : ∀ op ∈ ops, op.WF) :
    ∃ o₁' o₂' outs₁ outs₂, o₁.run ops = .ok (o₁', outs₁) ∧ o₂.run ops = .ok (o₂', outs₂) ∧
      outs₁.length = ops.length ∧ outs₂.length = ops.length ∧ o₁'.abs.ciphers = o₂'.abs.ciphers ∧
      exceptUnsplit ops outs₁ = exceptUnsplit ops outs₂ ∧
      (HOp.unsplit ∉ ops ∨ o₁.abs.ciphers.isVanilla = false → outs₁ = outs₂) := by
  obtain ⟨o₁', outs₁, hr₁, _, hs₁⟩ := Session_run_refines o₁ ops h₁ hops
  obtain ⟨o₂', outs₂, hr₂, _, hs₂⟩ := Session_run_refines o₂ ops h₂ hops
  have e₂ : o₂.abs = ⟨o₁.abs.ciphers, o₂.abs.isSplit⟩ := by rw [habs]
  have i := specRun_flag o₁.abs.ciphers o₁.abs.isSplit o₂.abs.isSplit ops
  have l₁ := specRun_length o₁.abs ops
  have l₂ := specRun_length o₂.abs ops
  rw [← e₂, hs₂] at i
  rw [show (⟨o₁.abs.ciphers, o₁.abs.isSplit⟩ : SpecState) = o₁.abs from rfl, hs₁] at i
  rw [hs₁] at l₁
  rw [hs₂] at l₂
  exact ⟨o₁', o₂', outs₁, outs₂, hr₁, hr₂, l₁, l₂, i.1, i.2.1, i.2.2⟩

/-- **(a) object-form independence**: two well-formed objects with the same cipher streams — whatever
    their form (combined / split) — answer every op list identically and keep the same streams.
    The one exception is in the Spec itself: `unsplit` on a Vanilla object asks for the form. -/
theorem Session_form_independent (o₁ o₂ : HObj) (h₁ : o₁.WF) (h₂ : o₂.WF)
    (habs : o₁.abs.ciphers = o₂.abs.ciphers) (ops : List HOp) (hops : ∀ op ∈ ops, op.WF)
    (hun : HOp.unsplit ∉ ops ∨ o₁.abs.ciphers.isVanilla = false) :
    ∃ o₁' o₂' outs, o₁.run ops = .ok (o₁', outs) ∧ o₂.run ops = .ok (o₂', outs) ∧
      o₁'.abs.ciphers = o₂'.abs.ciphers := by
  obtain ⟨o₁', o₂', outs₁, outs₂, hr₁, hr₂, _, _, hc, _, ho⟩ :=
    Session_form_independent_general o₁ o₂ h₁ h₂ habs ops hops
  exact ⟨o₁', o₂', outs₁, hr₁, ho hun ▸ hr₂, hc⟩

/-- Vanilla/TBC: the combined object and its own two halves (without the side condition, on all answers but
    those to `unsplit`: `Session_comb_eq_halves_except_unsplit`) -/
theorem Session_comb_eq_halves (e : Exp) (hc : HeaderCrypto) (h : (HObj.comb e hc).WF) (ops : List HOp)
    (hops : ∀ op ∈ ops, op.WF) (hun : HOp.unsplit ∉ ops ∨ e = .tbc) :
    ∃ o₁' o₂' outs, (HObj.comb e hc).run ops = .ok (o₁', outs) ∧
      (HObj.halves e hc.encrypt hc.decrypt).run ops = .ok (o₂', outs) ∧ o₁'.abs.ciphers = o₂'.abs.ciphers :=
  Session_form_independent (.comb e hc) (.halves e hc.encrypt hc.decrypt) h h rfl ops hops
    (hun.imp id (fun he => by subst he; rfl))

/-- Wrath client: `ClientCrypto` and its two halves, every op list -/
theorem Session_wcli_eq_halves (c : WClientCrypto) (h : (HObj.wcli c).WF) (ops : List HOp)
    (hops : ∀ op ∈ ops, op.WF) :
    ∃ o₁' o₂' outs, (HObj.wcli c).run ops = .ok (o₁', outs) ∧
      (HObj.wcliH c.encrypt c.decrypt).run ops = .ok (o₂', outs) ∧ o₁'.abs.ciphers = o₂'.abs.ciphers :=
  Session_form_independent (.wcli c) (.wcliH c.encrypt c.decrypt) h h rfl ops hops (.inr rfl)

/-- Wrath server: `ServerCrypto` and its two halves, every op list -/
theorem Session_wsrv_eq_halves (c : WServerCrypto) (h : (HObj.wsrv c).WF) (ops : List HOp)
    (hops : ∀ op ∈ ops, op.WF) :
    ∃ o₁' o₂' outs, (HObj.wsrv c).run ops = .ok (o₁', outs) ∧
      (HObj.wsrvH c.encrypt c.decrypt).run ops = .ok (o₂', outs) ∧ o₁'.abs.ciphers = o₂'.abs.ciphers :=
  Session_form_independent (.wsrv c) (.wsrvH c.encrypt c.decrypt) h h rfl ops hops (.inr rfl)

/-- **(a') object-form independence without side condition**: two well-formed objects with the same cipher
    streams — whatever their form — run every op list (`unsplit` included, Vanilla included) without panic,
    give the same answer to every op that is not an `unsplit`, and keep the same streams. (The answer to
    `unsplit` is the one thing that asks for the form: `done` from split Vanilla halves, `na` otherwise.) -/
theorem Session_form_independent_except_unsplit (o₁ o₂ : HObj) (h₁ : o₁.WF) (h₂ : o₂.WF)
    (habs : o₁.abs.ciphers = o₂.abs.ciphers) (ops : List HOp) (hops : ∀ op ∈ ops, op.WF) :
    ∃ o₁' o₂' outs₁ outs₂, o₁.run ops = .ok (o₁', outs₁) ∧ o₂.run ops = .ok (o₂', outs₂) ∧
      outs₁.length = ops.length ∧ outs₂.length = ops.length ∧
      exceptUnsplit ops outs₁ = exceptUnsplit ops outs₂ ∧ o₁'.abs.ciphers = o₂'.abs.ciphers := by
  obtain ⟨o₁', o₂', outs₁, outs₂, hr₁, hr₂, l₁, l₂, hc, he, _⟩ :=
    Session_form_independent_general o₁ o₂ h₁ h₂ habs ops hops
  exact ⟨o₁', o₂', outs₁, outs₂, hr₁, hr₂, l₁, l₂, he, hc⟩

/-- Vanilla/TBC, no side condition: the combined object and its own two halves on any op list — `unsplit`
    may occur —: all answers except those to `unsplit` agree, and so do the cipher streams at the end -/
theorem Session_comb_eq_halves_except_unsplit (e : Exp) (hc : HeaderCrypto) (h : (HObj.comb e hc).WF)
    (ops : List HOp) (hops : ∀ op ∈ ops, op.WF) :
    ∃ o₁' o₂' outs₁ outs₂, (HObj.comb e hc).run ops = .ok (o₁', outs₁) ∧
      (HObj.halves e hc.encrypt hc.decrypt).run ops = .ok (o₂', outs₂) ∧
      outs₁.length = ops.length ∧ outs₂.length = ops.length ∧
      exceptUnsplit ops outs₁ = exceptUnsplit ops outs₂ ∧ o₁'.abs.ciphers = o₂'.abs.ciphers :=
  Session_form_independent_except_unsplit (.comb e hc) (.halves e hc.encrypt hc.decrypt) h h rfl ops hops

/-- the four plaintext bytes of a long server header the Wrath client keeps between the two steps of
    decrypting it (nothing on the other kinds of object) -/
def Spec.Ciphers.stash : Ciphers → Bytes
  | .wcli _ _ st => st
  | _ => []

inductive DKind where
  | vt
  | wcli
  | wsrv
deriving DecidableEq, Repr

def DecSt.kind : DecSt → DKind
  | .vt .. => .vt
  | .wcli .. => .wcli
  | .wsrv .. => .wsrv

/-- the decrypt-side ops of each kind of object (the methods that exist on it and take wire bytes) -/
def DKind.isDec : DKind → HOp → Bool
  | _, .dec _ => true
  | .vt, .decServer _ | .vt, .decClient _ | .vt, .readServer _ | .vt, .readClient _ => true
  | .wsrv, .decClient _ | .wsrv, .readClient _ => true
  | .wcli, .readServer _ | .wcli, .attempt _ | .wcli, .large _ => true
  | _, _ => false

/-- what a fixed-size `read_exact` hands to the cipher: the `n` bytes on success, nothing on failure -/
def readWire (script : List REv) (n : Nat) : Bytes :=
  match readExact script n [] with
  | (.ok wire, _) => wire
  | (.error _, _) => []

/-- **the wire bytes a decrypt-side op feeds the decrypt direction.** Array / slice arguments: the argument.
    Read wrappers: the bytes `read_exact` delivered — nothing if it failed. Wrath client
    `read_and_decrypt_server_header`: the four bytes, and the fifth if the first plaintext byte carries
    the marker bit *and* the second `read_exact` delivers it (a failure there still leaves the four
    consumed). Only that last case looks at the stream (through the plaintext it produces). -/
def DecSt.wire (D : DecSt) : HOp → Bytes
  | .dec w | .decServer w | .decClient w | .attempt w => w
  | .large b => [b]
  | .readClient script => readWire script 6
  | .readServer script =>
    match D with
    | .wcli r =>
      match readExact script 4 [] with
      | (.error _, _) => []
      | (.ok w4, rest) =>
        if !Spec.isLarge (r.crypt w4).2 then w4 else
        match readExact rest 1 [] with
        | (.error _, _) => w4
        | (.ok w5, _) => w4 ++ w5
    | _ => readWire script 4
  | _ => []

/-- answer of a fixed-size read wrapper, given the plaintext stream from here on -/
def readShow (script : List REv) (n : Nat) (stash plain : Bytes) : Nat × HOut × Bytes :=
  match readExact script n [] with
  | (.error k, rest) => (0, .readErr k (Spec.consumed script rest) true, stash)
  | (.ok wire, rest) =>
    let p := plain.take wire.length
    (wire.length, .readOk (Spec.headerOf p).1 (Spec.headerOf p).2 (Spec.consumed script rest), stash)

/-- **what a decrypt-side op answers, as a function of the plaintext stream alone**: `plain` is the
    decryption of all wire bytes from this op on; the result is how many of them this op uses, its
    answer, and the client's stash afterwards. No cipher state, no key: the reader scripts only say how
    many bytes arrive and which error ends a read. -/
def decShow (k : DKind) (stash : Bytes) (op : HOp) (plain : Bytes) : Nat × HOut × Bytes :=
  match op with
  | .dec w => (w.length, .bytes (plain.take w.length), stash)
  | .decServer w | .decClient w =>
    let p := plain.take w.length
    (w.length, .header (Spec.headerOf p).1 (Spec.headerOf p).2, stash)
  | .attempt w =>
    let p := plain.take w.length
    if Spec.isLarge p then (w.length, .more, p)
    else (w.length, .header (Spec.headerOf p).1 (Spec.headerOf p).2, stash)
  | .large _ =>
    let q := plain.take 1
    (1, .header (Spec.largeHeaderOf (stash ++ q)).1 (Spec.largeHeaderOf (stash ++ q)).2, stash)
  | .readClient script => readShow script 6 stash plain
  | .readServer script =>
    match k with
    | .wcli =>
      match readExact script 4 [] with
      | (.error e, rest) => (0, .readErr e (Spec.consumed script rest) true, stash)
      | (.ok w4, rest) =>
        let p := plain.take w4.length
        if !Spec.isLarge p then
          (w4.length, .readOk (Spec.headerOf p).1 (Spec.headerOf p).2 (Spec.consumed script rest), stash)
        else
        match readExact rest 1 [] with
        | (.error e, rest') => (w4.length, .readErr e (Spec.consumed script rest') false, p)
        | (.ok w5, rest') =>
          let q := (plain.drop w4.length).take w5.length
          (w4.length + w5.length,
           .readOk (Spec.largeHeaderOf (p ++ q)).1 (Spec.largeHeaderOf (p ++ q)).2 (Spec.consumed script rest'), p)
    | _ => readShow script 4 stash plain
  | _ => (0, .na, stash)

/-- all wire bytes an op list pushes through the decrypt direction, in order -/
def decInput : DecSt → List HOp → Bytes
  | _, [] => []
  | D, op :: ops =>
    if D.kind.isDec op then D.wire op ++ decInput (D.decrypt (D.wire op)).1 ops else decInput D ops

/-- the answers to the decrypt-side ops of a list, cut out of one plaintext stream; and the stash at the end -/
def decCut (k : DKind) : Bytes → List HOp → Bytes → List HOut × Bytes
  | stash, [], _ => ([], stash)
  | stash, op :: ops, plain =>
    if k.isDec op then
      let r := decShow k stash op plain
      let rs := decCut k r.2.2 ops (plain.drop r.1)
      (r.2.1 :: rs.1, rs.2)
    else decCut k stash ops plain

/-- the answers of a run that belong to its decrypt-side ops -/
def decSide (k : DKind) : List HOp → List HOut → List HOut
  | op :: ops, out :: outs => if k.isDec op then out :: decSide k ops outs else decSide k ops outs
  | _, _ => []

theorem DecSt.kind_decrypt (D : DecSt) (a : Bytes) : (D.decrypt a).1.kind = D.kind := by
  cases D <;> rfl

/-- a decrypt-side op pushes its wire bytes through the decrypt direction and answers what `decShow` reads
    off the plaintext (whatever plaintext follows: `tail`); any other op touches neither the direction
    nor the stash -/
def DecStepOK (s : SpecState) (op : HOp) : Prop :=
  if s.ciphers.decPart.kind.isDec op then
    (specStep s op).1.ciphers.decPart = (s.ciphers.decPart.decrypt (s.ciphers.decPart.wire op)).1 ∧
    ∀ tail, decShow s.ciphers.decPart.kind s.ciphers.stash op
        ((s.ciphers.decPart.decrypt (s.ciphers.decPart.wire op)).2 ++ tail) =
      ((s.ciphers.decPart.wire op).length, (specStep s op).2, (specStep s op).1.ciphers.stash)
  else (specStep s op).1.ciphers.decPart = s.ciphers.decPart ∧
    (specStep s op).1.ciphers.stash = s.ciphers.stash

theorem DecSt.take_decrypt (D : DecSt) (w tail : Bytes) : ((D.decrypt w).2 ++ tail).take w.length = (D.decrypt w).2 :=
  List.take_left' (D.decrypt_length w)

/-- a fixed-size read wrapper of the Spec session, seen from the decrypt direction (`DecStepOK` at the read
    ops, `decShow` being `readShow` there): the wire bytes `readWire` go through the direction (none on a reader
    failure: hence `Reduced`), and `readShow` reads the answer off the plaintext, whatever follows it (`tail`);
    the stash stays -/
theorem readHeader_dec (c : Ciphers) (n : Nat) (script : List REv) (hr : c.decPart.Reduced) :
    (c.readHeader n script).1.decPart = (c.decPart.decrypt (readWire script n)).1 ∧
    ∀ tail, readShow script n c.stash ((c.decPart.decrypt (readWire script n)).2 ++ tail) =
      ((readWire script n).length, (c.readHeader n script).2, (c.readHeader n script).1.stash) := by
  cases hre : readExact script n [] with
  | mk res rest =>
    cases res with
    | error k =>
      have e1 : c.readHeader n script = (c, .readErr k (Spec.consumed script rest) true) := by
        simp only [Ciphers.readHeader, hre]
      have e2 : readWire script n = [] := by simp only [readWire, hre]
      rw [e1, e2]
      refine ⟨(DecSt.decrypt_nil_fst _ hr).symm, fun tail => ?_⟩
      simp only [readShow, hre]
      rfl
    | ok wire =>
      simp only [Ciphers.readHeader, readWire, readShow, hre, DecSt.take_decrypt]
      cases c <;> exact ⟨rfl, fun _ => rfl⟩

/-- the same for the Wrath client's two-read wrapper: `DecStepOK` at `.readServer`, written out -/
theorem wrathReadServer_dec (en de : Spec.Rc4) (st : Bytes) (script : List REv) :
    (Spec.wrathReadServer en de st script).1.decPart =
        ((DecSt.wcli de).decrypt ((DecSt.wcli de).wire (.readServer script))).1 ∧
    ∀ tail, decShow .wcli st (.readServer script)
        (((DecSt.wcli de).decrypt ((DecSt.wcli de).wire (.readServer script))).2 ++ tail) =
      (((DecSt.wcli de).wire (.readServer script)).length, (Spec.wrathReadServer en de st script).2,
        (Spec.wrathReadServer en de st script).1.stash) := by
  cases hre : readExact script 4 [] with
  | mk res rest =>
    cases res with
    | error k =>
      simp only [Spec.wrathReadServer, DecSt.wire, decShow, hre]
      exact ⟨rfl, fun _ => rfl⟩
    | ok w4 =>
      by_cases hlg : Spec.isLarge (de.crypt w4).2 = true
      · cases hre2 : readExact rest 1 [] with
        | mk res2 rest2 =>
          cases res2 with
          | error k =>
            simp only [Spec.wrathReadServer, DecSt.wire, decShow, hre, hre2, hlg, Bool.not_true, Bool.false_eq_true,
              if_false, DecSt.decrypt, Spec.Rc4.take_crypt]
            exact ⟨rfl, fun _ => rfl⟩
          | ok w5 =>
            simp only [Spec.wrathReadServer, DecSt.wire, decShow, hre, hre2, hlg, Bool.not_true, Bool.false_eq_true,
              if_false, DecSt.decrypt, Spec.Rc4.crypt_append, List.append_assoc, Spec.Rc4.take_crypt,
              Spec.Rc4.drop_crypt, List.length_append]
            exact ⟨rfl, fun _ => rfl⟩
      · simp only [Spec.wrathReadServer, DecSt.wire, decShow, hre, hlg, Bool.not_false, if_true, DecSt.decrypt,
          Spec.Rc4.take_crypt]
        exact ⟨rfl, fun _ => rfl⟩

/-- encrypting leaves the decrypt direction and the stash alone (`p` a variable: with the six bytes of a
    concrete header in its place, `rfl` would run the generator six steps before giving up on it) -/
theorem Spec.Ciphers.encrypt_decPart (c : Ciphers) (p : Bytes) :
    (c.encrypt p).1.decPart = c.decPart ∧ (c.encrypt p).1.stash = c.stash := by
  cases c <;> exact ⟨rfl, rfl⟩

theorem specStep_decPart (s : SpecState) (op : HOp) (hr : s.ciphers.decPart.Reduced) : DecStepOK s op := by
  obtain ⟨c, b⟩ := s
  cases c with
  | vt e en de =>
    cases op with
    | dec w | decServer w | decClient w =>
      refine ⟨rfl, fun tail => ?_⟩
      simp only [decShow, Ciphers.decPart, DecSt.wire, DecSt.take_decrypt]
      rfl
    | readServer script => exact readHeader_dec (.vt e en de) 4 script hr
    | readClient script => exact readHeader_dec (.vt e en de) 6 script hr
    | enc d | encServer s o | encClient s o | writeServer s o script | writeClient s o script =>
      exact (Ciphers.vt e en de).encrypt_decPart _
    | unsplit => cases b <;> cases e <;> exact ⟨rfl, rfl⟩
    | _ => exact ⟨rfl, rfl⟩
  | wsrv en de =>
    cases op with
    | dec w | decClient w =>
      refine ⟨rfl, fun tail => ?_⟩
      simp only [decShow, Ciphers.decPart, DecSt.wire, DecSt.take_decrypt]
      rfl
    | readClient script => exact readHeader_dec (.wsrv en de) 6 script trivial
    | enc d | encServer s o | writeServer s o script => exact (Ciphers.wsrv en de).encrypt_decPart _
    | unsplit => cases b <;> exact ⟨rfl, rfl⟩
    | _ => exact ⟨rfl, rfl⟩
  | wcli en de st =>
    cases op with
    | dec w =>
      refine ⟨rfl, fun tail => ?_⟩
      simp only [decShow, Ciphers.decPart, DecSt.wire, DecSt.decrypt, Spec.Rc4.take_crypt]
      rfl
    | readServer script => exact wrathReadServer_dec en de st script
    | attempt w =>
      -- marker bit set or not, the four bytes go through the stream alike
      refine ⟨?_, fun tail => ?_⟩
      · show (if _ then _ else _ : Ciphers × HOut).1.decPart = _
        split <;> rfl
      · simp only [decShow, Ciphers.decPart, DecSt.wire, DecSt.decrypt, Spec.Rc4.take_crypt, specStep, Ciphers.step,
          Ciphers.plainOf]
        split <;> rfl
    | large byte =>
      refine ⟨rfl, fun tail => ?_⟩
      simp only [decShow, Ciphers.decPart, DecSt.wire, DecSt.decrypt, Ciphers.stash]
      rfl
    | enc d | encClient s o | writeClient s o script => exact (Ciphers.wcli en de st).encrypt_decPart _
    | unsplit => cases b <;> exact ⟨rfl, rfl⟩
    | _ => exact ⟨rfl, rfl⟩

/-- Spec level: the decrypt-side answers of any op list are read off ONE decryption of the concatenated
    wire bytes — whatever encrypt-side ops, splits, clones happen in between —, the direction ends where
    that one call ends, and so does the stash -/
theorem specRun_decrypt_side (s : SpecState) (ops : List HOp) (hr : s.ciphers.decPart.Reduced) :
    decSide s.ciphers.decPart.kind ops (specRun s ops).2 =
      (decCut s.ciphers.decPart.kind s.ciphers.stash ops
        (s.ciphers.decPart.decrypt (decInput s.ciphers.decPart ops)).2).1 ∧
    (specRun s ops).1.ciphers.decPart = (s.ciphers.decPart.decrypt (decInput s.ciphers.decPart ops)).1 ∧
    (specRun s ops).1.ciphers.stash =
      (decCut s.ciphers.decPart.kind s.ciphers.stash ops
        (s.ciphers.decPart.decrypt (decInput s.ciphers.decPart ops)).2).2 := by
  induction ops generalizing s with
  | nil => exact ⟨rfl, (DecSt.decrypt_nil_fst _ hr).symm, rfl⟩
  | cons op ops ih =>
    have hstep := specStep_decPart s op hr
    unfold DecStepOK at hstep
    by_cases hd : s.ciphers.decPart.kind.isDec op = true
    · rw [if_pos hd] at hstep
      obtain ⟨h1, h2⟩ := hstep
      have hr1 : (specStep s op).1.ciphers.decPart.Reduced := by rw [h1]; exact DecSt.decrypt_reduced _ hr _
      obtain ⟨i1, i2, i3⟩ := ih (specStep s op).1 hr1
      rw [h1, DecSt.kind_decrypt] at i1 i3
      rw [h1] at i2
      simp only [specRun, decSide, decInput, decCut, hd, if_true, DecSt.decrypt_append, h2,
        List.drop_left' (DecSt.decrypt_length _ _)]
      exact ⟨by rw [i1], i2, i3⟩
    · rw [if_neg hd] at hstep
      obtain ⟨h1, h2⟩ := hstep
      have hr1 : (specStep s op).1.ciphers.decPart.Reduced := by rw [h1]; exact hr
      obtain ⟨i1, i2, i3⟩ := ih (specStep s op).1 hr1
      rw [h1, h2] at i1 i3
      rw [h1] at i2
      simp only [specRun, decSide, decInput, decCut, hd, Bool.false_eq_true, if_false]
      exact ⟨i1, i2, i3⟩


/-- **(b') the mirror image of `Session_encrypt_side`**, for every object form and every op list: the
    answers at the decrypt-side ops (`dec`, the typed header decrypters, the read wrappers, Wrath's
    `attempt` / `large`) are read off ONE decryption of the concatenated wire bytes the decrypt direction
    consumed (`decInput`: array / slice arguments as given; for a read wrapper the bytes `read_exact`
    delivered, nothing if it failed — except Wrath's failure at the fifth byte, which has consumed four),
    cut at the op boundaries and shown by `decShow` (a function of the plaintext and the reader script
    alone); the decrypt direction ends where that one call ends, and the client's stash is the one the
    cut leaves. The encrypt-side ops, `split`, `clone`, `unsplit` in between do not matter. -/
theorem Session_decrypt_side (o : HObj) (ops : List HOp) (h : o.WF) (hops : ∀ op ∈ ops, op.WF) :
    ∃ o' outs, o.run ops = .ok (o', outs) ∧
      decSide o.abs.ciphers.decPart.kind ops outs =
        (decCut o.abs.ciphers.decPart.kind o.abs.ciphers.stash ops
          (o.abs.ciphers.decPart.decrypt (decInput o.abs.ciphers.decPart ops)).2).1 ∧
      o'.abs.ciphers.decPart =
        (o.abs.ciphers.decPart.decrypt (decInput o.abs.ciphers.decPart ops)).1 ∧
      o'.abs.ciphers.stash =
        (decCut o.abs.ciphers.decPart.kind o.abs.ciphers.stash ops
          (o.abs.ciphers.decPart.decrypt (decInput o.abs.ciphers.decPart ops)).2).2 := by
  obtain ⟨o', outs, hrun, _, hspec⟩ := Session_run_refines o ops h hops
  obtain ⟨h1, h2, h3⟩ := specRun_decrypt_side o.abs ops (o.abs_reduced h).2
  rw [hspec] at h1 h2 h3
  exact ⟨o', outs, hrun, h1, h2, h3⟩

/-- (b') spelled out for Vanilla/TBC: the one plaintext stream is `recDec` of the concatenated wire bytes,
    from the object's current position; no stash -/
theorem Session_decrypt_side_vt (e : Exp) (hc : HeaderCrypto) (ops : List HOp) (h : (HObj.comb e hc).WF)
    (hops : ∀ op ∈ ops, op.WF) :
    ∃ o' outs, (HObj.comb e hc).run ops = .ok (o', outs) ∧
      decSide .vt ops outs =
        (decCut .vt [] ops
          (Spec.recDec hc.decrypt.key hc.decrypt.index hc.decrypt.prev
            (decInput (.vt e hc.decrypt.abs) ops))).1 := by
  obtain ⟨o', outs, hrun, h1, _⟩ := Session_decrypt_side (.comb e hc) ops h hops
  exact ⟨o', outs, hrun, h1⟩

theorem decInput_filter (k : DKind) (ops : List HOp) (D : DecSt) (hk : D.kind = k) :
    decInput D (ops.filter k.isDec) = decInput D ops := by
  induction ops generalizing D with
  | nil => rfl
  | cons op ops ih =>
    by_cases hd : k.isDec op = true
    · simp only [List.filter_cons, hd, if_true, decInput, hk]
      rw [ih _ ((DecSt.kind_decrypt _ _).trans hk)]
    · simp only [List.filter_cons, hd, Bool.false_eq_true, if_false, decInput, hk]
      exact ih D hk

theorem decCut_filter (k : DKind) (ops : List HOp) (stash plain : Bytes) :
    decCut k stash (ops.filter k.isDec) plain = decCut k stash ops plain := by
  induction ops generalizing stash plain with
  | nil => rfl
  | cons op ops ih =>
    by_cases hd : k.isDec op = true
    · simp only [List.filter_cons, hd, if_true, decCut, ih]
    · simp only [List.filter_cons, hd, Bool.false_eq_true, if_false, decCut, ih]

/-- **(b') in the words of the property**: two sessions — any two object forms, any two op lists — whose decrypt
    directions start in the same state (stream and stash) and whose op lists contain the same
    decrypt-side ops in the same order give the same answers at those ops and end with the same decrypt
    direction, *whatever* the two encrypt directions are and whatever encrypt-side ops, `split`s,
    `clone`s, `unsplit`s are interleaved in either list -/
theorem Session_decrypt_side_indep (o₁ o₂ : HObj) (ops₁ ops₂ : List HOp) (h₁ : o₁.WF) (h₂ : o₂.WF)
    (hops₁ : ∀ op ∈ ops₁, op.WF) (hops₂ : ∀ op ∈ ops₂, op.WF)
    (hD : o₁.abs.ciphers.decPart = o₂.abs.ciphers.decPart) (hst : o₁.abs.ciphers.stash = o₂.abs.ciphers.stash)
    (hsame : ops₁.filter o₁.abs.ciphers.decPart.kind.isDec = ops₂.filter o₁.abs.ciphers.decPart.kind.isDec) :
    ∃ o₁' o₂' outs₁ outs₂, o₁.run ops₁ = .ok (o₁', outs₁) ∧ o₂.run ops₂ = .ok (o₂', outs₂) ∧
      decSide o₁.abs.ciphers.decPart.kind ops₁ outs₁ = decSide o₁.abs.ciphers.decPart.kind ops₂ outs₂ ∧
      o₁'.abs.ciphers.decPart = o₂'.abs.ciphers.decPart ∧ o₁'.abs.ciphers.stash = o₂'.abs.ciphers.stash := by
  obtain ⟨o₁', outs₁, r₁, a₁, b₁, c₁⟩ := Session_decrypt_side o₁ ops₁ h₁ hops₁
  obtain ⟨o₂', outs₂, r₂, a₂, b₂, c₂⟩ := Session_decrypt_side o₂ ops₂ h₂ hops₂
  rw [← hD] at a₂ b₂ c₂
  rw [← hst] at a₂ c₂
  have hi : decInput o₁.abs.ciphers.decPart ops₁ = decInput o₁.abs.ciphers.decPart ops₂ := by
    rw [← decInput_filter _ ops₁ _ rfl, ← decInput_filter _ ops₂ _ rfl, hsame]
  have hc : ∀ st pl, decCut o₁.abs.ciphers.decPart.kind st ops₁ pl = decCut o₁.abs.ciphers.decPart.kind st ops₂ pl := by
    intro st pl
    rw [← decCut_filter _ ops₁, ← decCut_filter _ ops₂, hsame]
  refine ⟨o₁', o₂', outs₁, outs₂, r₁, r₂, ?_, ?_, ?_⟩
  · rw [a₁, a₂, hi, hc]
  · rw [b₁, b₂, hi]
  · rw [c₁, c₂, hi, hc]

/-! (c) A concrete session, by evaluation: a fresh Vanilla object over `Crypto.real`; `Out.answers` / `Out.answer`
keep the answers of a result and drop the object. -/

def demoKey : Bytes := (List.range 40).map fun i => UInt8.ofNat (7 * i + 3)
def demoObj : HObj := .comb .vanilla (HeaderCrypto.new Crypto.real .vanilla demoKey)

/-- ten different op kinds on a Vanilla object; the two `unsplit`s show the one place where the form matters -/
def demoOps : List HOp :=
  [.encServer 12 0x1EE, .enc [1, 2, 3], .split, .decClient [0x10, 0x20, 0x30, 0x40, 0x50, 0x60], .dec [9],
   .attempt [0, 0, 0, 0], .clone, .encClient 4 0x1ED, .decServer [1, 2, 3, 4], .unsplit, .unsplit]

def Out.answers : Out (HObj × List HOut) → Option (List HOut)
  | .ok (_, outs) => some outs
  | .panic _ => none

def Out.answer : Out (HObj × HOut) → Option HOut
  | .ok (_, out) => some out
  | .panic _ => none

example : demoObj.WF := (WF_fresh_vanilla Crypto.real demoKey (by decide)).1
example : ∀ op ∈ demoOps, op.WF := by decide

example : (demoObj.run demoOps).answers =
    some [.bytes [3, 9, 8, 33], .bytes [63, 99, 145], .done, .header 4890 906954753, .bytes [132], .na, .done,
          .bytes [197, 4, 179, 251, 75, 162], .header 52282 18499, .done, .na] := by
  decide

/-- the Spec session gives the same answers by evaluation (as `Session_run_refines` says it must) -/
example : (specRun demoObj.abs demoOps).2 =
    [.bytes [3, 9, 8, 33], .bytes [63, 99, 145], .done, .header 4890 906954753, .bytes [132], .na, .done,
     .bytes [197, 4, 179, 251, 75, 162], .header 52282 18499, .done, .na] := by
  decide

/-! the I/O wrappers: `readExact` / `writeAll` are defined by well-founded recursion, which `decide` does
    not unfold; their value on the concrete script is computed by `simp` with the equation lemmas first -/
theorem demo_read1 : readExact [.data [1, 2], .interrupted, .data [3, 4, 5]] 4 [] = (.ok [1, 2, 3, 4], [.data [5]]) := by
  simp [readExact]
theorem demo_read2 : readExact [.data [1, 2], .err 7, .data [1]] 4 [] = (.error 7, [.data [1]]) := by
  simp [readExact]
theorem demo_read3 : readExact [.data [1, 2, 3, 4, 5, 6, 7]] 6 [] = (.ok [1, 2, 3, 4, 5, 6], [.data [7]]) := by
  simp [readExact]

example : (demoObj.step (.readServer [.data [1, 2], .interrupted, .data [3, 4, 5]])).answer =
    some (.readOk 523 6416 4) := by
  simp only [demoObj, HObj.step, HeaderCrypto.readServerHeader, Half.readServerHeader, Gen.vanillaServerHeaderLength, demo_read1]
  decide
example : (demoObj.step (.readServer [.data [1, 2], .err 7, .data [1]])).answer = some (.readErr 7 2 true) := by
  simp only [demoObj, HObj.step, HeaderCrypto.readServerHeader, Half.readServerHeader, Gen.vanillaServerHeaderLength, demo_read2]
  decide
example : (demoObj.step (.readClient [.data [1, 2, 3, 4, 5, 6, 7]])).answer = some (.readOk 523 656283920 6) := by
  simp only [demoObj, HObj.step, HeaderCrypto.readClientHeader, Half.readClientHeader, Gen.vanillaClientHeaderLength, demo_read3]
  decide
example : (demoObj.step (.writeServer 12 0x1EE [.accept 3, .interrupted, .accept 0])).answer =
    some (.writeErr 10 [3, 9, 8]) := by
  simp only [demoObj, HObj.step, HeaderCrypto.writeServerHeader, Half.writeServerHeader, writeAll_spec]
  decide

/-- the wire bytes the decrypt side of `demoOps` consumes: `decClient`'s six, `dec`'s one, `decServer`'s four -/
example : decInput demoObj.abs.ciphers.decPart demoOps = [0x10, 0x20, 0x30, 0x40, 0x50, 0x60, 9, 1, 2, 3, 4] := by
  decide

/-- one decryption of those eleven bytes, cut by `decCut`, gives the three decrypt-side answers of the run
    (cf. the `example` for `demoObj.run demoOps` above) -/
example :
    (decCut .vt [] demoOps
      (demoObj.abs.ciphers.decPart.decrypt [0x10, 0x20, 0x30, 0x40, 0x50, 0x60, 9, 1, 2, 3, 4]).2).1 =
    [.header 4890 906954753, .bytes [132], .header 52282 18499] := by
  decide

example : decSide .vt demoOps
    [.bytes [3, 9, 8, 33], .bytes [63, 99, 145], .done, .header 4890 906954753, .bytes [132], .na, .done,
     .bytes [197, 4, 179, 251, 75, 162], .header 52282 18499, .done, .na] =
    [.header 4890 906954753, .bytes [132], .header 52282 18499] := by
  decide

/-- Wrath client, the two-step long header on the Spec session: a generator over the identity table (first
    keystream byte 2, so `82 01 02 03` decrypts to a marker byte), `attempt` answers `more`, an `enc` in
    between, then `large`; `decCut` reads the same two answers off one decryption of the five bytes -/
example :
    let s : SpecState := ⟨.wcli ⟨List.range 256, 0, 0⟩ ⟨List.range 256, 0, 0⟩ [0, 0, 0, 0], false⟩
    let ops : List HOp := [.attempt [0x82, 1, 2, 3], .enc [1], .large 7]
    decInput s.ciphers.decPart ops = [0x82, 1, 2, 3, 7] ∧
    decSide .wcli ops (specRun s ops).2 = [.more, .header 1029 2574] ∧
    (decCut .wcli [0, 0, 0, 0] ops (s.ciphers.decPart.decrypt [0x82, 1, 2, 3, 7]).2) =
      ([.more, .header 1029 2574], [0x80, 4, 5, 14]) := by
  decide +kernel

/-- (a') the two `unsplit` answers of `demoOps` are the only ones that ask for the form -/
example : exceptUnsplit demoOps
    [.bytes [3, 9, 8, 33], .bytes [63, 99, 145], .done, .header 4890 906954753, .bytes [132], .na, .done,
     .bytes [197, 4, 179, 251, 75, 162], .header 52282 18499, .done, .na] =
    [.bytes [3, 9, 8, 33], .bytes [63, 99, 145], .done, .header 4890 906954753, .bytes [132], .na, .done,
     .bytes [197, 4, 179, 251, 75, 162], .header 52282 18499] := by
  decide

end WowSrp

#print axioms WowSrp.Session_step_refines
#print axioms WowSrp.Session_run_refines
#print axioms WowSrp.Session_step_needs_array_lengths
#print axioms WowSrp.WF_fresh
#print axioms WowSrp.WF_fresh_wcli
#print axioms WowSrp.WF_fresh_wsrv
#print axioms WowSrp.Session_form_independent
#print axioms WowSrp.Session_comb_eq_halves
#print axioms WowSrp.Session_wcli_eq_halves
#print axioms WowSrp.Session_wsrv_eq_halves
#print axioms WowSrp.Session_encrypt_side
#print axioms WowSrp.Session_encrypt_concat_vt
#print axioms WowSrp.Session_form_independent_except_unsplit
#print axioms WowSrp.Session_comb_eq_halves_except_unsplit
#print axioms WowSrp.Session_decrypt_side
#print axioms WowSrp.Session_decrypt_side_vt
#print axioms WowSrp.Session_decrypt_side_indep
