/-
The std::io model (`readExact`, `writeAll` of Model/Deps.lean) characterised completely. What `readExact`
returns, and what can be observed of the script it leaves behind, depends on three observations of the
script only: `streamOf`, `stopKind`, `afterStop` (`readExact_ok_spec`, `readExact_fail_spec`).
Fragmentation, interruptions and failure offsets are corollaries: for a script `pre ++ tail` with `pre`
benign, `benign_append` computes the observations from `dataOf pre` and `tail`. Writers likewise with
the one observation `wCap`. Core Lean only.
-/
import WowSrp.Model.Deps
namespace WowSrp

/-- the bytes the script hands over before its first *stop* event (`.err`, `.eof`, an empty `.data`, or the end of the
    script); `.interrupted` events are skipped and the fragmentation into `.data` events is forgotten -/
def streamOf : List REv → Bytes
  | [] => []
  | .interrupted :: r => streamOf r
  | .data [] :: _ => []
  | .data (b :: bs) :: r => (b :: bs) ++ streamOf r
  | .err _ :: _ => []
  | .eof :: _ => []

/-- the error `read_exact` reports when it runs into the first stop event -/
def stopKind : List REv → IoKind
  | [] => kindUnexpectedEof
  | .interrupted :: r => stopKind r
  | .data [] :: _ => kindUnexpectedEof
  | .data (_ :: _) :: r => stopKind r
  | .err k :: _ => k
  | .eof :: _ => kindUnexpectedEof

/-- what is left of the script once the first stop event has been consumed -/
def afterStop : List REv → List REv
  | [] => []
  | .interrupted :: r => afterStop r
  | .data [] :: r => r
  | .data (_ :: _) :: r => afterStop r
  | .err _ :: r => r
  | .eof :: r => r

/-- `read()` calls that neither fail nor signal end of file: a non-empty chunk or `Interrupted` -/
def REv.benign : REv → Bool
  | .data bs => !bs.isEmpty
  | .interrupted => true
  | _ => false

/-- the bytes carried by a list of events -/
def dataOf : List REv → Bytes
  | [] => []
  | .data bs :: r => bs ++ dataOf r
  | _ :: r => dataOf r

/-- `read_exact` takes one byte of a chunk and pushes the others back: the script it goes on with is observed
    like the one before, less that byte -/
theorem obs_pushback (b : UInt8) (bs : Bytes) (rest : List REv) :
    streamOf (.data (b :: bs) :: rest) = b :: streamOf (if bs.isEmpty then rest else .data bs :: rest) ∧
    stopKind (.data (b :: bs) :: rest) = stopKind (if bs.isEmpty then rest else .data bs :: rest) ∧
    afterStop (.data (b :: bs) :: rest) = afterStop (if bs.isEmpty then rest else .data bs :: rest) := by
  cases bs <;> exact ⟨rfl, rfl, rfl⟩

theorem readExact_zero (s : List REv) (acc : Bytes) : readExact s 0 acc = (.ok acc, s) := by
  unfold readExact; rfl

/-- enough bytes before the first stop event: `readExact` returns the first `n` of them, and the script it leaves is
    observed like the old one, less those bytes -/
theorem readExact_ok_spec (s : List REv) (n : Nat) (acc : Bytes) (hn : n ≤ (streamOf s).length) :
    (readExact s n acc).1 = .ok (acc ++ (streamOf s).take n) ∧
    streamOf (readExact s n acc).2 = (streamOf s).drop n ∧
    stopKind (readExact s n acc).2 = stopKind s ∧
    afterStop (readExact s n acc).2 = afterStop s := by
  -- the cases are the seven equations of `readExact`, in that order
  fun_induction readExact s n acc with
  | case1 script acc => simp  -- `n = 0`
  | case2 | case4 | case5 | case6 => simp [streamOf] at hn  -- the script has run out or stops here: no byte for `n + 1`
  | case3 rest n acc ih =>  -- `.interrupted`: skipped by `readExact` and by the three observations
    simpa [streamOf, stopKind, afterStop] using ih (by simpa [streamOf] using hn)
  | case7 b bs rest n acc ih =>  -- `.data (b :: bs)`: one byte taken, the others pushed back
    simp only [dite_eq_ite] at ih
    obtain ⟨e1, e2, e3⟩ := obs_pushback b bs rest
    rw [e1] at hn ⊢
    rw [e2, e3]
    obtain ⟨h1, h2, h3, h4⟩ := ih (by simpa using hn)
    exact ⟨by rw [h1]; simp, h2, h3, h4⟩

/-- too few bytes before the first stop event: its error, and the script after it -/
theorem readExact_fail_spec (s : List REv) (n : Nat) (acc : Bytes) (hn : (streamOf s).length < n) :
    readExact s n acc = (.error (stopKind s), afterStop s) := by
  fun_induction readExact s n acc with
  | case1 script acc => simp at hn  -- `n = 0`
  | case2 | case4 | case5 | case6 => simp [stopKind, afterStop]  -- the script has run out or stops here
  | case3 rest n acc ih =>  -- `.interrupted`
    simpa [streamOf, stopKind, afterStop] using ih (by simpa [streamOf] using hn)
  | case7 b bs rest n acc ih =>  -- `.data (b :: bs)`
    simp only [dite_eq_ite] at ih
    obtain ⟨e1, e2, e3⟩ := obs_pushback b bs rest
    rw [e1] at hn
    rw [e2, e3]
    exact ih (by simpa using hn)

/-- the result alone (what is left of the script: the two lemmas above) -/
theorem readExact_spec (s : List REv) (n : Nat) :
    (readExact s n []).1 =
      if n ≤ (streamOf s).length then .ok ((streamOf s).take n) else .error (stopKind s) := by
  split
  · next h => simpa using (readExact_ok_spec s n [] h).1
  · next h => rw [readExact_fail_spec s n [] (by omega)]

theorem readExact_length (s : List REv) (n : Nat) (buf : Bytes) (rest : List REv)
    (h : readExact s n [] = (.ok buf, rest)) : buf.length = n := by
  by_cases hn : n ≤ (streamOf s).length
  · have h1 := (readExact_ok_spec s n [] hn).1
    rw [h] at h1
    injection h1 with h1
    rw [h1, List.nil_append, List.length_take, Nat.min_eq_left hn]
  · rw [readExact_fail_spec s n [] (by omega)] at h
    cases h

/-- `readExact_ok_spec` for a stream written as what is read ++ what is left -/
theorem readExact_prefix (s : List REv) (buf more : Bytes) (hs : streamOf s = buf ++ more) :
    ∃ rest, readExact s buf.length [] = (.ok buf, rest) ∧ streamOf rest = more := by
  obtain ⟨h1, h2, _⟩ := readExact_ok_spec s buf.length [] (by simp [hs])
  rw [hs] at h1 h2
  exact ⟨_, Prod.ext (by simpa using h1) rfl, by simpa using h2⟩

theorem benign_append (pre tail : List REv) (hb : ∀ ev ∈ pre, ev.benign = true) :
    streamOf (pre ++ tail) = dataOf pre ++ streamOf tail ∧ stopKind (pre ++ tail) = stopKind tail ∧
    afterStop (pre ++ tail) = afterStop tail := by
  induction pre with
  | nil => exact ⟨rfl, rfl, rfl⟩
  | cons ev pre ih =>
    obtain ⟨i1, i2, i3⟩ := ih (fun ev h => hb ev (List.mem_cons_of_mem _ h))
    have h0 := hb ev List.mem_cons_self
    match ev, h0 with
    | .data (b :: bs), _ => simp [streamOf, stopKind, afterStop, dataOf, i1, i2, i3]
    | .interrupted, _ => simp [streamOf, stopKind, afterStop, dataOf, i1, i2, i3]

theorem readExact_benign_ok (pre tail : List REv) (n : Nat)
    (hb : ∀ ev ∈ pre, ev.benign = true) (hn : n ≤ (dataOf pre).length) :
    ∃ rest, readExact (pre ++ tail) n [] = (.ok ((dataOf pre).take n), rest) ∧
      streamOf rest = (dataOf pre).drop n ++ streamOf tail ∧
      stopKind rest = stopKind tail ∧ afterStop rest = afterStop tail := by
  obtain ⟨hs, hk, ha⟩ := benign_append pre tail hb
  obtain ⟨h1, h2, h3, h4⟩ := readExact_ok_spec (pre ++ tail) n [] (by rw [hs]; simp; omega)
  rw [hs] at h1 h2
  exact ⟨_, Prod.ext (by rw [h1]; simp [List.take_append_of_le_length hn]) rfl,
    by rw [h2]; simp [List.drop_append_of_le_length hn], h3.trans hk, h4.trans ha⟩

theorem readExact_fragmentation_eq (pre₁ pre₂ tail₁ tail₂ : List REv) (n : Nat)
    (hb₁ : ∀ ev ∈ pre₁, ev.benign = true) (hb₂ : ∀ ev ∈ pre₂, ev.benign = true)
    (hsame : dataOf pre₁ = dataOf pre₂) (hn : n ≤ (dataOf pre₁).length) :
    (readExact (pre₁ ++ tail₁) n []).1 = (readExact (pre₂ ++ tail₂) n []).1 := by
  obtain ⟨_, h1, _⟩ := readExact_benign_ok pre₁ tail₁ n hb₁ hn
  obtain ⟨_, h2, _⟩ := readExact_benign_ok pre₂ tail₂ n hb₂ (hsame ▸ hn)
  rw [h1, h2, hsame]

theorem readExact_fragmentation_single (pre tail : List REv) (n : Nat)
    (hb : ∀ ev ∈ pre, ev.benign = true) (hn : n ≤ (dataOf pre).length) (hpos : 0 < n) :
    (readExact (pre ++ tail) n []).1 = (readExact [.data (dataOf pre)] n []).1 := by
  have hne : (dataOf pre).isEmpty = false := by
    cases h : dataOf pre with
    | nil => rw [h] at hn; simp at hn; omega
    | cons b bs => rfl
  have := readExact_fragmentation_eq pre [.data (dataOf pre)] tail [] n hb
    (by intro ev h; simp at h; subst h; simp [REv.benign, hne]) (by simp [dataOf]) hn
  simpa using this

/-- the events that make `read_exact` give up, with the error kind it then reports -/
def REv.failKind : REv → Option IoKind
  | .err k => some k
  | .eof => some kindUnexpectedEof
  | .data [] => some kindUnexpectedEof
  | _ => none

theorem REv.failKind_spec {ev : REv} {k : IoKind} (hk : ev.failKind = some k) (tail : List REv) :
    streamOf (ev :: tail) = [] ∧ stopKind (ev :: tail) = k ∧ afterStop (ev :: tail) = tail := by
  match ev, hk with
  | .err _, hk | .eof, hk | .data [], hk => cases hk; exact ⟨rfl, rfl, rfl⟩

/-- `readExact_fail_spec` for a script that delivers `(dataOf pre).length < n` bytes and then fails with `ev`
    (`.err k`, `.eof`, an empty `.data`): that event's kind, and the script is consumed up to and including it -/
theorem readExact_fail_stop (pre tail : List REv) (ev : REv) (n : Nat) (k : IoKind) (acc : Bytes)
    (hb : ∀ e ∈ pre, e.benign = true) (hn : (dataOf pre).length < n) (hk : ev.failKind = some k) :
    readExact (pre ++ ev :: tail) n acc = (.error k, tail) := by
  obtain ⟨hs, hk', ha⟩ := benign_append pre (ev :: tail) hb
  obtain ⟨e1, e2, e3⟩ := REv.failKind_spec hk tail
  rw [readExact_fail_spec _ n acc (by rw [hs, e1]; simpa using hn), hk', ha, e2, e3]

/-- … and for a script that delivers too few bytes and then has no more events -/
theorem readExact_fail_end (pre : List REv) (n : Nat) (acc : Bytes)
    (hb : ∀ ev ∈ pre, ev.benign = true) (hn : (dataOf pre).length < n) :
    readExact pre n acc = (.error kindUnexpectedEof, []) := by
  obtain ⟨hs, hk, ha⟩ := benign_append pre [] hb
  rw [List.append_nil] at hs hk ha
  rw [readExact_fail_spec _ n acc (by rw [hs]; simpa [streamOf] using hn), hk, ha]
  rfl

/-- the results of the two lemmas above, the failing events spelled out -/
theorem readExact_fail (pre tail : List REv) (n : Nat) (acc : Bytes)
    (hb : ∀ ev ∈ pre, ev.benign = true) (hn : (dataOf pre).length < n) :
    (∀ k, (readExact (pre ++ .err k :: tail) n acc).1 = .error k) ∧
    (readExact (pre ++ .eof :: tail) n acc).1 = .error kindUnexpectedEof ∧
    (readExact (pre ++ .data [] :: tail) n acc).1 = .error kindUnexpectedEof ∧
    (readExact pre n acc).1 = .error kindUnexpectedEof :=
  ⟨fun k => by rw [readExact_fail_stop pre tail (.err k) n k acc hb hn rfl],
   by rw [readExact_fail_stop pre tail .eof n _ acc hb hn rfl],
   by rw [readExact_fail_stop pre tail (.data []) n _ acc hb hn rfl],
   by rw [readExact_fail_end pre n acc hb hn]⟩

/-- how many bytes the script is willing to take before its first stop event (`.err`, `Ok(0)`), and
    the error that stop event produces inside `write_all` (`none`: the script runs out, which
    accepts everything) -/
def wCap : List WEv → Nat × Option IoKind
  | [] => (0, none)
  | .interrupted :: r => wCap r
  | .err k :: _ => (0, some k)
  | .accept 0 :: _ => (0, some kindWriteZero)
  | .accept (n+1) :: r => ((wCap r).1 + (n + 1), (wCap r).2)

theorem writeAll_spec (script : List WEv) (buf sink : Bytes) :
    writeAll script buf sink =
      match (wCap script).2 with
      | none => (.ok (), sink ++ buf)
      | some k =>
        if buf.length ≤ (wCap script).1 then (.ok (), sink ++ buf)
        else (.error k, sink ++ buf.take (wCap script).1) := by
  -- the cases are the six equations of `writeAll`, in that order
  fun_induction writeAll script buf sink with
  | case1 script sink => cases h : (wCap script).2 <;> simp  -- nothing to write
  | case2 | case4 | case5 => simp [wCap]  -- the script has run out (takes everything) or stops here (takes nothing)
  | case3 rest buf sink hb ih => exact ih  -- `.interrupted`: skipped by `writeAll` and by `wCap`
  | case6 n rest b bs sink ih =>  -- `.accept (n+1)`: `n + 1` bytes to the sink, or all that is left if that is less
    have e : wCap (.accept (n+1) :: rest) = ((wCap rest).1 + (n + 1), (wCap rest).2) := rfl
    rw [ih, e]
    cases h : (wCap rest).2 with
    | none => simp
    | some k =>
      -- the same test, and the same bytes in the sink: `take (n+1) ++ take c (drop (n+1)) = take (n+1 + c)`
      have hc : ((b :: bs).drop (n+1)).length ≤ (wCap rest).1 ↔ (b :: bs).length ≤ (wCap rest).1 + (n+1) := by
        rw [List.length_drop]; omega
      simp only [hc, List.append_assoc, List.take_append_drop, Nat.add_comm (wCap rest).1,
        List.take_add (i := n+1) (j := (wCap rest).1)]

/-- `writeAll_spec` as the two ways `write_all` ends -/
theorem writeAll_cases (script : List WEv) (buf sink : Bytes) :
    writeAll script buf sink = (.ok (), sink ++ buf) ∨
    ∃ k m, m < buf.length ∧ writeAll script buf sink = (.error k, sink ++ buf.take m) := by
  rw [writeAll_spec]
  cases (wCap script).2 with
  | none => exact .inl rfl
  | some k =>
    by_cases h : buf.length ≤ (wCap script).1
    · exact .inl (if_pos h)
    · exact .inr ⟨k, _, by omega, if_neg h⟩

theorem writeAll_sink_prefix (script : List WEv) (buf sink : Bytes) :
    ∃ m, m ≤ buf.length ∧ (writeAll script buf sink).2 = sink ++ buf.take m := by
  rcases writeAll_cases script buf sink with h | ⟨_, m, hm, h⟩
  · exact ⟨buf.length, Nat.le_refl _, by rw [h, List.take_length]⟩
  · exact ⟨m, Nat.le_of_lt hm, by rw [h]⟩

theorem writeAll_ok_sink (script : List WEv) (buf sink : Bytes)
    (h : (writeAll script buf sink).1 = .ok ()) : (writeAll script buf sink).2 = sink ++ buf := by
  rcases writeAll_cases script buf sink with h' | ⟨_, _, _, h'⟩
  · rw [h']
  · rw [h'] at h; cases h

theorem writeAll_error_sink (script : List WEv) (buf sink : Bytes) (k : IoKind)
    (h : (writeAll script buf sink).1 = .error k) :
    ∃ m, m < buf.length ∧ (writeAll script buf sink).2 = sink ++ buf.take m := by
  rcases writeAll_cases script buf sink with h' | ⟨_, m, hm, h'⟩
  · rw [h'] at h; cases h
  · exact ⟨m, hm, by rw [h']⟩

def WEv.benign : WEv → Bool
  | .accept n => n != 0
  | .interrupted => true
  | .err _ => false

def accepted : List WEv → Nat
  | [] => 0
  | .accept n :: r => n + accepted r
  | _ :: r => accepted r

theorem wCap_benign_append (pre tail : List WEv) (hb : ∀ ev ∈ pre, ev.benign = true) :
    wCap (pre ++ tail) = ((wCap tail).1 + accepted pre, (wCap tail).2) := by
  induction pre with
  | nil => simp [accepted]
  | cons ev pre ih =>
    have ih := ih (fun ev h => hb ev (List.mem_cons_of_mem _ h))
    match ev, hb ev List.mem_cons_self with
    | .accept (n+1), _ => simp [wCap, accepted, ih]; omega
    | .interrupted, _ => simp [wCap, accepted, ih]

/-- everything is written if `pre` takes it all, or if nothing comes after `pre` (a script that runs out takes the
    rest) -/
theorem writeAll_ok (pre tail : List WEv) (buf sink : Bytes) (hb : ∀ ev ∈ pre, ev.benign = true)
    (hlen : tail = [] ∨ buf.length ≤ accepted pre) :
    writeAll (pre ++ tail) buf sink = (.ok (), sink ++ buf) := by
  rw [writeAll_spec, wCap_benign_append pre tail hb]
  rcases hlen with h | h
  · subst h; simp [wCap]
  · cases (wCap tail).2 with
    | none => rfl
    | some k => simp only; rw [if_pos (by omega)]

/-- the events that make `write_all` give up, with the error kind it then reports (`Ok(0)` is `WriteZero`) -/
def WEv.failKind : WEv → Option IoKind
  | .err k => some k
  | .accept 0 => some kindWriteZero
  | _ => none

/-- the writer takes `accepted pre < buf.length` bytes and then fails with `ev`: that event's kind, and exactly those
    bytes have reached the sink -/
theorem writeAll_stop (pre tail : List WEv) (ev : WEv) (buf sink : Bytes) (k : IoKind)
    (hb : ∀ e ∈ pre, e.benign = true) (hlen : accepted pre < buf.length) (hk : ev.failKind = some k) :
    writeAll (pre ++ ev :: tail) buf sink = (.error k, sink ++ buf.take (accepted pre)) := by
  have hev : wCap (ev :: tail) = (0, some k) := by
    match ev, hk with
    | .err _, hk | .accept 0, hk => cases hk; rfl
  rw [writeAll_spec, wCap_benign_append pre _ hb, hev]
  simp only [Nat.zero_add]
  rw [if_neg (by omega)]

end WowSrp
