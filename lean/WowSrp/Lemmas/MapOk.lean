/-
`Out.mapOk f`: apply `f` to a non-panicking outcome, pass a panic through. An equation
`x = y.mapOk f` says at once "x panics iff y does, with the same message" and "otherwise x returns
`f` of what y returns". Core Lean only.
-/
import WowSrp.Model.Basic
namespace WowSrp

def Out.mapOk {α β : Type} (f : α → β) : Out α → Out β
  | .ok a => .ok (f a)
  | .panic p => .panic p

/-- `mapOk` as a `do` block, for rewriting both sides of an equation into one chain of binds -/
theorem Out.mapOk_eq_bind {α β : Type} (f : α → β) (x : Out α) : x.mapOk f = x >>= fun a => pure (f a) := by
  cases x <;> rfl

theorem Out.mapOk_eq_ok_iff {α β : Type} (f : α → β) (y : Out α) (b : β) :
    y.mapOk f = .ok b ↔ ∃ a, y = .ok a ∧ b = f a := by
  cases y with
  | panic p => simp [Out.mapOk]
  | ok a =>
    simp only [Out.mapOk, Out.ok.injEq]
    exact ⟨fun h => ⟨a, rfl, h.symm⟩, fun ⟨a', h1, h2⟩ => by rw [h1, h2]⟩

theorem Out.mapOk_eq_panic_iff {α β : Type} (f : α → β) (y : Out α) (p : String) :
    y.mapOk f = .panic p ↔ y = .panic p := by
  cases y <;> simp [Out.mapOk]

theorem Out.mapOk_ok_elim {α β : Type} {f : α → β} {y : Out α} {b : β} (P : β → Prop)
    (hP : ∀ a, P (f a)) (h : y.mapOk f = .ok b) : P b := by
  obtain ⟨a, _, rfl⟩ := (Out.mapOk_eq_ok_iff f y b).1 h
  exact hP a

theorem Out.mapOk_ok {α β : Type} (f : α → β) {y : Out α} {a : α} (h : y = .ok a) :
    y.mapOk f = .ok (f a) := by rw [h]; rfl

theorem Out.mapOk_mapOk {α β γ : Type} (f : α → β) (g : β → γ) (x : Out α) :
    (x.mapOk f).mapOk g = x.mapOk fun a => g (f a) := by cases x <;> rfl

theorem Out.mapOk_id {α : Type} (x : Out α) : x.mapOk (fun a => a) = x := by cases x <;> rfl

/-- the shape the data methods of the combined objects have: a new state next to a value
    (a new state inside an `IoRes`: `Out.mapOk_io_eq_ok_iff`, Lemmas/Facade.lean) -/
theorem Out.mapOk_pair_eq_ok_iff {τ σ α : Type} (y : Out (τ × α)) (upd : τ → σ) (s' : σ) (a : α) :
    y.mapOk (fun p => (upd p.1, p.2)) = .ok (s', a) ↔ ∃ r, y = .ok (r, a) ∧ s' = upd r := by
  rw [Out.mapOk_eq_ok_iff]
  exact ⟨fun ⟨⟨r, a'⟩, h1, h2⟩ => by cases h2; exact ⟨r, h1, rfl⟩, fun ⟨r, h1, h2⟩ => ⟨(r, a), h1, by rw [h2]⟩⟩

end WowSrp
