/-
The byte loop `runSteps` for an arbitrary step function, several calls in a row (`runChunks`), and the
recurrence cipher (Vanilla / TBC) as one instance of both: one step under the invariant `Half.Inv m` and
without it, a whole call as a function of the state, for both expansions at once over `e : Exp`.
The round trip needs no invariant: the decrypter's step undoes the encrypter's from every state
(`decStep_of_encStep`), so whatever the sender's calls returned is undone (`Half.roundtrip`).
Core Lean only.
-/
import WowSrp.Model.Header
import WowSrp.Spec.Header
import WowSrp.Lemmas.MapOk
namespace WowSrp

theorem runSteps_nil {σ : Type} (step : σ → UInt8 → Out (σ × UInt8)) (h : σ) :
    runSteps step h [] = .ok (h, []) := rfl

section runSteps
variable {σ : Type} (step : σ → UInt8 → Out (σ × UInt8))

/-- induction along a successful call: every fact of the form "`runSteps … = .ok …` implies …"
    (length, what a step keeps, inverses) is an instance -/
theorem runSteps_ok_induct {R : σ → Bytes → σ → Bytes → Prop} (nil : ∀ h, R h [] h [])
    (cons : ∀ h x h' y xs h'' ys, step h x = .ok (h', y) → R h' xs h'' ys → R h (x :: xs) h'' (y :: ys))
    {h h' : σ} {xs ys : Bytes} (hr : runSteps step h xs = .ok (h', ys)) : R h xs h' ys := by
  induction xs generalizing h ys with
  | nil => cases hr; exact nil _
  | cons x xs ih =>
    simp only [runSteps] at hr
    split at hr
    · cases hr
    · next hs =>
      split at hr
      · cases hr
      · next hr2 => cases hr; exact cons _ _ _ _ _ _ _ hs (ih hr2)

theorem runSteps_length {h h' : σ} {xs out : Bytes} (hr : runSteps step h xs = .ok (h', out)) :
    out.length = xs.length :=
  runSteps_ok_induct step (R := fun _ xs _ ys => ys.length = xs.length) (fun _ => rfl)
    (fun _ _ _ _ _ _ _ _ ih => by simp [ih]) hr

theorem runSteps_inverse (f g : σ → UInt8 → Out (σ × UInt8))
    (hfg : ∀ s x s' y, f s x = .ok (s', y) → g s y = .ok (s', x))
    {s s' : σ} {xs ys : Bytes} (h : runSteps f s xs = .ok (s', ys)) : runSteps g s ys = .ok (s', xs) :=
  runSteps_ok_induct f (R := fun s xs s' ys => runSteps g s ys = .ok (s', xs)) (fun _ => rfl)
    (fun _ _ _ _ _ _ _ hs ih => by simp only [runSteps, hfg _ _ _ _ hs, ih]) h

theorem runSteps_ok_of_inv (P : σ → Prop)
    (hstep : ∀ h x, P h → ∃ h' y, step h x = .ok (h', y) ∧ P h') (h : σ) (xs : Bytes) (hp : P h) :
    ∃ h' ys, runSteps step h xs = .ok (h', ys) ∧ P h' ∧ ys.length = xs.length := by
  induction xs generalizing h with
  | nil => exact ⟨h, [], rfl, hp, rfl⟩
  | cons x xs ih =>
    obtain ⟨h1, y, hs, hp1⟩ := hstep h x hp
    obtain ⟨h2, ys, hr, hp2, hl⟩ := ih h1 hp1
    exact ⟨h2, y :: ys, by simp only [runSteps, hs, hr], hp2, by simp [hl]⟩

theorem runSteps_append (h : σ) (xs ys : Bytes) :
    runSteps step h (xs ++ ys) =
      match runSteps step h xs with
      | .panic p => .panic p
      | .ok (h', out1) =>
        match runSteps step h' ys with
        | .panic p => .panic p
        | .ok (h'', out2) => .ok (h'', out1 ++ out2) := by
  induction xs generalizing h with
  | nil => simp only [List.nil_append, runSteps]; cases runSteps step h ys <;> rfl
  | cons x xs ih =>
    simp only [List.cons_append, runSteps]
    cases step h x with
    | panic p => rfl
    | ok r =>
      obtain ⟨h', y⟩ := r
      simp only [ih h']
      cases runSteps step h' xs with
      | panic p => rfl
      | ok r2 =>
        obtain ⟨h2, o1⟩ := r2
        simp only
        cases runSteps step h2 ys <;> rfl

theorem runStepsTR_go_eq (h : σ) (xs : Bytes) (acc : Array UInt8) :
    runStepsTR.go step h xs acc =
      match runSteps step h xs with
      | .panic p => .panic p
      | .ok (h', out) => .ok (h', acc.toList ++ out) := by
  induction xs generalizing h acc with
  | nil => simp [runStepsTR.go, runSteps]
  | cons x xs ih =>
    simp only [runStepsTR.go, runSteps]
    cases step h x with
    | panic p => rfl
    | ok r =>
      obtain ⟨h', y⟩ := r
      simp only [ih]
      cases runSteps step h' xs with
      | panic p => rfl
      | ok r2 => obtain ⟨h2, o⟩ := r2; simp

end runSteps

theorem runStepsTR_eq {σ : Type} (step : σ → UInt8 → Out (σ × UInt8)) (h : σ) (xs : Bytes) :
    runStepsTR step h xs = runSteps step h xs := by
  unfold runStepsTR
  rw [runStepsTR_go_eq]
  cases runSteps step h xs with
  | panic p => rfl
  | ok r => obtain ⟨h2, o⟩ := r; simp

/-- several calls in a row, outputs concatenated -/
def runChunks {σ : Type} (f : σ → Bytes → Out (σ × Bytes)) : σ → List Bytes → Out (σ × Bytes)
  | h, [] => .ok (h, [])
  | h, c :: cs =>
    match f h c with
    | .panic p => .panic p
    | .ok (h', o) =>
      match runChunks f h' cs with
      | .panic p => .panic p
      | .ok (h'', os) => .ok (h'', o ++ os)

theorem runChunks_flatten {σ : Type} (step : σ → UInt8 → Out (σ × UInt8)) (h : σ) (chunks : List Bytes) :
    runChunks (runSteps step) h chunks = runSteps step h chunks.flatten := by
  induction chunks generalizing h with
  | nil => rfl
  | cons c cs ih =>
    simp only [runChunks, List.flatten_cons, runSteps_append]
    cases runSteps step h c with
    | panic p => rfl
    | ok r => obtain ⟨h', o⟩ := r; simp only [ih]

/-- if `g` undoes `f` byte by byte, a receiver in the sender's state undoes whatever calls of the sender returned,
    however the ciphertext is cut into calls -/
theorem runChunks_roundtrip {σ : Type} (f g : σ → UInt8 → Out (σ × UInt8))
    (hfg : ∀ s x s' y, f s x = .ok (s', y) → g s y = .ok (s', x))
    {s s' : σ} {send recv : List Bytes} {cipher : Bytes}
    (hsend : runChunks (runSteps f) s send = .ok (s', cipher)) (hpart : recv.flatten = cipher) :
    runChunks (runSteps g) s recv = .ok (s', send.flatten) := by
  rw [runChunks_flatten] at hsend ⊢
  rw [hpart]
  exact runSteps_inverse f g hfg hsend

/-- several calls through a wrapper that carries other fields along (`g t d` is `f` on the field `get t`, the
    result `put` back): the calls on the field, `put` back at the end -/
theorem runChunks_mapOk {σ τ : Type} (f : σ → Bytes → Out (σ × Bytes)) (g : τ → Bytes → Out (τ × Bytes))
    (get : τ → σ) (put : τ → σ → τ) (hget : ∀ t s, get (put t s) = s) (hput : ∀ t s s', put (put t s) s' = put t s')
    (hid : ∀ t, put t (get t) = t)
    (hg : ∀ t d, g t d = (f (get t) d).mapOk fun p => (put t p.1, p.2))
    (t : τ) (chunks : List Bytes) :
    runChunks g t chunks = (runChunks f (get t) chunks).mapOk fun p => (put t p.1, p.2) := by
  induction chunks generalizing t with
  | nil => simp only [runChunks, Out.mapOk, hid]
  | cons c cs ih =>
    simp only [runChunks, hg]
    cases f (get t) c with
    | panic p => rfl
    | ok a =>
      simp only [Out.mapOk, ih, hget]
      cases runChunks f a.1 cs with
      | panic p => rfl
      | ok b => simp only [hput]

theorem Spec.recDec_recEnc (key : Bytes) (n : Nat) (p : UInt8) (xs : Bytes) :
    Spec.recDec key n p (Spec.recEnc key n p xs) = xs := by
  induction xs generalizing n p with
  | nil => rfl
  | cons x xs ih =>
    simp only [Spec.recEnc, Spec.recDec, ih]
    rw [UInt8.add_sub_cancel, UInt8.xor_assoc, UInt8.xor_self, UInt8.xor_zero]

theorem Spec.recEnc_length (key : Bytes) (n : Nat) (p : UInt8) (xs : Bytes) :
    (Spec.recEnc key n p xs).length = xs.length := by
  induction xs generalizing n p with
  | nil => rfl
  | cons x xs ih => simp [Spec.recEnc, ih]

theorem Spec.recDec_length (key : Bytes) (n : Nat) (p : UInt8) (cs : Bytes) :
    (Spec.recDec key n p cs).length = cs.length := by
  induction cs generalizing n p with
  | nil => rfl
  | cons c cs ih => simp [Spec.recDec, ih]

theorem Spec.recEnc_mod (key : Bytes) (n : Nat) (p : UInt8) (xs : Bytes) :
    Spec.recEnc key (n % key.length) p xs = Spec.recEnc key n p xs := by
  induction xs generalizing n p with
  | nil => rfl
  | cons x xs ih =>
    simp only [Spec.recEnc, Nat.mod_mod]
    rw [← ih (n % key.length + 1), ← ih (n + 1), Nat.mod_add_mod]

theorem Spec.recDec_mod (key : Bytes) (n : Nat) (p : UInt8) (cs : Bytes) :
    Spec.recDec key (n % key.length) p cs = Spec.recDec key n p cs := by
  induction cs generalizing n p with
  | nil => rfl
  | cons c cs ih =>
    simp only [Spec.recDec, Nat.mod_mod]
    rw [← ih (n % key.length + 1), ← ih (n + 1), Nat.mod_add_mod]

theorem getLastD_append {α : Type} (a b : List α) (d : α) : (a ++ b).getLastD d = b.getLastD (a.getLastD d) := by
  induction a generalizing d with
  | nil => rfl
  | cons x a ih =>
    cases b with
    | nil => simp
    | cons y b => simp only [List.cons_append, List.getLastD_cons, ih]

/-- a stream cut in two: the second part starts `a.length` positions on, after the last ciphertext byte of the first -/
theorem Spec.recEnc_append (key : Bytes) (n : Nat) (p : UInt8) (a b : Bytes) :
    Spec.recEnc key n p (a ++ b) =
      Spec.recEnc key n p a ++ Spec.recEnc key (n + a.length) ((Spec.recEnc key n p a).getLastD p) b := by
  induction a generalizing n p with
  | nil => rfl
  | cons x a ih =>
    simp only [List.cons_append, Spec.recEnc, ih, List.length_cons, List.getLastD_cons]
    rw [Nat.add_assoc, Nat.add_comm 1]

theorem Spec.recDec_append (key : Bytes) (n : Nat) (p : UInt8) (a b : Bytes) :
    Spec.recDec key n p (a ++ b) =
      Spec.recDec key n p a ++ Spec.recDec key (n + a.length) (a.getLastD p) b := by
  induction a generalizing n p with
  | nil => rfl
  | cons x a ih =>
    simp only [List.cons_append, Spec.recDec, ih, List.length_cons, List.getLastD_cons]
    rw [Nat.add_assoc, Nat.add_comm 1]

theorem Half.ext (a b : Half) (hk : a.key = b.key) (hi : a.index = b.index) (hp : a.prev = b.prev) :
    a = b := by
  cases a; cases b; simp only at hk hi hp; subst hk hi hp; rfl

/-- the state invariant: position inside the key, key long enough, `index + 1` fits a `u8` -/
def Half.Inv (m : Nat) (h : Half) : Prop := 0 < m ∧ m ≤ 255 ∧ m ≤ h.key.length ∧ h.index < m

theorem encStep_ok (m : Nat) (h : Half) (x : UInt8) (hi : h.Inv m) :
    encStep m h x = .ok ({ h with index := (h.index + 1) % m,
                                   prev := (x ^^^ h.key[h.index]'(by unfold Half.Inv at hi; omega)) + h.prev },
                         (x ^^^ h.key[h.index]'(by unfold Half.Inv at hi; omega)) + h.prev) := by
  obtain ⟨h0, h255, hk, hlt⟩ := hi
  have h1 : ¬ (h.index + 1 > 255) := by omega
  have h2 : ¬ (m = 0) := by omega
  simp only [encStep, List.getElem?_eq_getElem (show h.index < h.key.length by omega), h1, h2, if_false]

theorem decStep_ok (m : Nat) (h : Half) (c : UInt8) (hi : h.Inv m) :
    decStep m h c = .ok ({ h with index := (h.index + 1) % m, prev := c },
                         (c - h.prev) ^^^ h.key[h.index]'(by unfold Half.Inv at hi; omega)) := by
  obtain ⟨h0, h255, hk, hlt⟩ := hi
  have h1 : ¬ (h.index + 1 > 255) := by omega
  have h2 : ¬ (m = 0) := by omega
  simp only [decStep, List.getElem?_eq_getElem (show h.index < h.key.length by omega), h1, h2, if_false]

theorem Half.Inv_step (m : Nat) (h : Half) (p : UInt8) (hi : h.Inv m) :
    ({ h with index := (h.index + 1) % m, prev := p } : Half).Inv m :=
  ⟨hi.1, hi.2.1, hi.2.2.1, Nat.mod_lt _ hi.1⟩

/-- no out-of-bounds index, no overflow (C07 / C08 "bounds"): under the invariant both steps return and keep it -/
theorem encStep_decStep_ok (m : Nat) (h : Half) (x : UInt8) (hi : h.Inv m) :
    ∃ h' y, encStep m h x = .ok (h', y) ∧ h'.Inv m ∧
    ∃ h'' z, decStep m h x = .ok (h'', z) ∧ h''.Inv m :=
  ⟨_, _, encStep_ok m h x hi, Half.Inv_step m h _ hi, _, _, decStep_ok m h x hi, Half.Inv_step m h _ hi⟩

/-- what a step that returned did, with no invariant assumed -/
theorem encStep_eq_ok {m : Nat} {h h' : Half} {x c : UInt8} (hs : encStep m h x = .ok (h', c)) :
    ∃ k, h.key[h.index]? = some k ∧ ¬ h.index + 1 > 255 ∧ ¬ m = 0 ∧
      h' = ⟨h.key, (h.index + 1) % m, (x ^^^ k) + h.prev⟩ ∧ c = (x ^^^ k) + h.prev := by
  unfold encStep at hs
  split at hs
  · cases hs
  · next k hk =>
    split at hs
    · cases hs
    · split at hs <;> cases hs
      exact ⟨k, hk, ‹_›, ‹_›, rfl, rfl⟩

/-- a decrypter in the encrypter's state maps its output byte back and lands in the encrypter's new state —
    whenever the encrypter's step returned, from every state (algebra on bytes) -/
theorem decStep_of_encStep {m : Nat} {h h' : Half} {x c : UInt8} (hs : encStep m h x = .ok (h', c)) :
    decStep m h c = .ok (h', x) := by
  obtain ⟨k, hk, h1, h2, rfl, rfl⟩ := encStep_eq_ok hs
  simp only [decStep, hk, h1, h2, if_false, UInt8.add_sub_cancel, UInt8.xor_assoc, UInt8.xor_self, UInt8.xor_zero]

/-- the same under the invariant, with the decrypter given as a second value in the same state (the form
    C07 / C08 quote) -/
theorem inverse_step (m : Nat) (e d : Half) (x : UInt8) (hi : e.Inv m)
    (hk : d.key = e.key) (hx : d.index = e.index) (hp : d.prev = e.prev) :
    ∃ e' d' c, encStep m e x = .ok (e', c) ∧ decStep m d c = .ok (d', x) ∧
      e'.Inv m ∧ d'.key = e'.key ∧ d'.index = e'.index ∧ d'.prev = e'.prev := by
  obtain rfl := Half.ext d e hk hx hp
  exact ⟨_, _, _, encStep_ok m d x hi, decStep_of_encStep (encStep_ok m d x hi), Half.Inv_step m d _ hi,
    rfl, rfl, rfl⟩

theorem encStep_key {m : Nat} {h h' : Half} {x y : UInt8} (hs : encStep m h x = .ok (h', y)) :
    h'.key = h.key :=
  let ⟨_, _, _, _, e, _⟩ := encStep_eq_ok hs
  e ▸ rfl

theorem decStep_key {m : Nat} {h h' : Half} {x y : UInt8} (hs : decStep m h x = .ok (h', y)) :
    h'.key = h.key := by
  unfold decStep at hs
  split at hs
  · cases hs
  · split at hs
    · cases hs
    · split at hs <;> cases hs
      rfl

/-! Under the invariant, with the modulus equal to the key length, a whole call is a function of the state:
the Spec recurrence from the current position, ending `length` positions on. -/

theorem encRun_eq (m : Nat) (h : Half) (xs : Bytes) (hi : h.Inv m) (hm : m = h.key.length) :
    runSteps (encStep m) h xs =
      .ok (⟨h.key, (h.index + xs.length) % m, (Spec.recEnc h.key h.index h.prev xs).getLastD h.prev⟩,
           Spec.recEnc h.key h.index h.prev xs) := by
  induction xs generalizing h with
  | nil => simp [runSteps, Spec.recEnc, Nat.mod_eq_of_lt hi.2.2.2]
  | cons x xs ih =>
    have hlt : h.index < h.key.length := hm ▸ hi.2.2.2
    have hk : h.key[h.index % h.key.length]! = h.key[h.index] := by simp [Nat.mod_eq_of_lt hlt, hlt]
    -- the recursive call starts at `(index + 1) % m`, the Spec continues at `index + 1`
    have e1 := fun c => Spec.recEnc_mod h.key (h.index + 1) c xs
    rw [← hm] at e1
    simp only [runSteps, encStep_ok m h x hi, ih _ (Half.Inv_step m h _ hi) hm, Spec.recEnc, hk,
      List.getLastD_cons, List.length_cons, e1, Nat.mod_add_mod]
    rw [Nat.add_assoc, Nat.add_comm 1]

theorem decRun_eq (m : Nat) (h : Half) (cs : Bytes) (hi : h.Inv m) (hm : m = h.key.length) :
    runSteps (decStep m) h cs =
      .ok (⟨h.key, (h.index + cs.length) % m, cs.getLastD h.prev⟩, Spec.recDec h.key h.index h.prev cs) := by
  induction cs generalizing h with
  | nil => simp [runSteps, Spec.recDec, Nat.mod_eq_of_lt hi.2.2.2]
  | cons c cs ih =>
    have hlt : h.index < h.key.length := hm ▸ hi.2.2.2
    have hk : h.key[h.index % h.key.length]! = h.key[h.index] := by simp [Nat.mod_eq_of_lt hlt, hlt]
    have e1 := fun p => Spec.recDec_mod h.key (h.index + 1) p cs
    rw [← hm] at e1
    simp only [runSteps, decStep_ok m h c hi, ih _ (Half.Inv_step m h _ hi) hm, Spec.recDec, hk,
      List.getLastD_cons, List.length_cons, e1, Nat.mod_add_mod]
    rw [Nat.add_assoc, Nat.add_comm 1]

/-- length of the key a half indexes: the 40-byte session key (Vanilla), the 20-byte HMAC (TBC) -/
def Exp.keyLen : Exp → Nat
  | .vanilla => 40
  | .tbc => 20

theorem Exp.encMod_eq (e : Exp) : e.encMod = e.keyLen := by cases e <;> rfl
theorem Exp.decMod_eq (e : Exp) : e.decMod = e.keyLen := by cases e <;> rfl

theorem Half.encrypt_eq_runSteps (e : Exp) : Half.encrypt e = runSteps (encStep e.keyLen) := by
  funext h xs; rw [Half.encrypt, Exp.encMod_eq]
theorem Half.decrypt_eq_runSteps (e : Exp) : Half.decrypt e = runSteps (decStep e.keyLen) := by
  funext h xs; rw [Half.decrypt, Exp.decMod_eq]

theorem Half.inv_keyLen (e : Exp) (h : Half) (hl : h.key.length = e.keyLen) (hx : h.index < e.keyLen) :
    h.Inv e.keyLen :=
  ⟨by cases e <;> decide, by cases e <;> decide, Nat.le_of_eq hl.symm, hx⟩

/-- what the constructors need: Vanilla indexes the session key itself, which has 40 bytes
    (`[u8; 40]` in the API); TBC indexes an HMAC-SHA1 output, 20 bytes for a well-formed `Crypto` -/
def HeaderKeyOk (C : Crypto) : Exp → Bytes → Prop
  | .vanilla, K => K.length = 40
  | .tbc, _ => C.WF

theorem Half.newEnc_key_length (C : Crypto) (e : Exp) (K : Bytes) (hK : HeaderKeyOk C e K) :
    (Half.newEnc C e K).key.length = e.keyLen := by
  cases e
  · exact hK
  · exact hK.hmac_len _ _

/-- the two separately coded constructors build equal halves (for TBC: the two seed literals agree) -/
theorem Half.newDec_eq_newEnc (C : Crypto) (e : Exp) (K : Bytes) : Half.newDec C e K = Half.newEnc C e K := by
  cases e
  · rfl
  · have : Gen.tbcSeedDec = Gen.tbcSeedEnc := by decide
    simp only [Half.newDec, Half.newEnc, this]

theorem Half.newEnc_start (C : Crypto) (e : Exp) (K : Bytes) :
    (Half.newEnc C e K).index = 0 ∧ (Half.newEnc C e K).prev = 0 := by cases e <;> exact ⟨rfl, rfl⟩

theorem Half.newEnc_inv (C : Crypto) (e : Exp) (K : Bytes) (hK : HeaderKeyOk C e K) :
    (Half.newEnc C e K).Inv e.keyLen :=
  Half.inv_keyLen e _ (Half.newEnc_key_length C e K hK)
    (by rw [(Half.newEnc_start C e K).1]; cases e <;> decide)

theorem Half.newDec_inv (C : Crypto) (e : Exp) (K : Bytes) (hK : HeaderKeyOk C e K) :
    (Half.newDec C e K).Inv e.keyLen := by
  rw [Half.newDec_eq_newEnc]; exact Half.newEnc_inv C e K hK

theorem Half.encrypt_key (e : Exp) (h h' : Half) (d out : Bytes) (hr : h.encrypt e d = .ok (h', out)) :
    h'.key = h.key :=
  runSteps_ok_induct _ (R := fun (h : Half) _ (h' : Half) _ => h'.key = h.key) (fun _ => rfl)
    (fun _ _ _ _ _ _ _ hs ih => ih.trans (encStep_key hs)) hr

theorem Half.decrypt_key (e : Exp) (h h' : Half) (d out : Bytes) (hr : h.decrypt e d = .ok (h', out)) :
    h'.key = h.key :=
  runSteps_ok_induct _ (R := fun (h : Half) _ (h' : Half) _ => h'.key = h.key) (fun _ => rfl)
    (fun _ _ _ _ _ _ _ hs ih => ih.trans (decStep_key hs)) hr

/-- a fresh encrypter emits the recurrence from the start, `Spec.vanillaStream key = Spec.recEnc key 0 0`, over its
    key: the session key (Vanilla) or the HMAC (TBC; the Spec function keeps the name of the first) -/
theorem Half.recurrence (C : Crypto) (e : Exp) (K xs : Bytes) (hK : HeaderKeyOk C e K) :
    ∃ h', (Half.newEnc C e K).encrypt e xs = .ok (h', Spec.vanillaStream (Half.newEnc C e K).key xs) ∧
      h'.key = (Half.newEnc C e K).key ∧ h'.index = xs.length % e.keyLen ∧
      h'.prev = (Spec.vanillaStream (Half.newEnc C e K).key xs).getLastD 0 := by
  have h := encRun_eq e.keyLen _ xs (Half.newEnc_inv C e K hK) (Half.newEnc_key_length C e K hK).symm
  rw [(Half.newEnc_start C e K).1, (Half.newEnc_start C e K).2, Nat.zero_add] at h
  rw [Half.encrypt_eq_runSteps, h]
  exact ⟨_, rfl, rfl, rfl, rfl⟩

/-- **the round trip**, for every half in whatever state: if the sender's calls returned, a receiver in the
    sender's state recovers the plaintext from any chunking of the ciphertext and ends in the sender's final
    state. No invariant is needed: each step the sender made is undone (`decStep_of_encStep`). The three
    theorems below are this one in the forms C07 / C08 quote. -/
theorem Half.roundtrip (e : Exp) {h h' : Half} {sendChunks recvChunks : List Bytes} {cipher : Bytes}
    (hsend : runChunks (Half.encrypt e) h sendChunks = .ok (h', cipher)) (hpart : recvChunks.flatten = cipher) :
    runChunks (Half.decrypt e) h recvChunks = .ok (h', sendChunks.flatten) := by
  rw [Half.encrypt_eq_runSteps] at hsend
  rw [Half.decrypt_eq_runSteps]
  exact runChunks_roundtrip (encStep e.keyLen) (decStep e.keyLen) (fun _ _ _ _ => decStep_of_encStep) hsend hpart

/-- encrypter and decrypter given as two values in equal states; under the invariant (written out, as is
    `d' = e'` field by field) the sender's calls do return, with the recurrence from its position -/
theorem Half.roundtrip_from_equal_states (e : Exp) (e0 d0 : Half) (hlen : e0.key.length = e.keyLen)
    (hidx : e0.index < e.keyLen) (hk : d0.key = e0.key) (hx : d0.index = e0.index) (hp : d0.prev = e0.prev)
    (sendChunks : List Bytes) :
    ∃ e', runChunks (Half.encrypt e) e0 sendChunks =
        .ok (e', Spec.recEnc e0.key e0.index e0.prev sendChunks.flatten) ∧
      e'.key = e0.key ∧ e'.key.length = e.keyLen ∧ e'.index < e.keyLen ∧
      ∀ recvChunks : List Bytes,
        recvChunks.flatten = Spec.recEnc e0.key e0.index e0.prev sendChunks.flatten →
        ∃ d', runChunks (Half.decrypt e) d0 recvChunks = .ok (d', sendChunks.flatten) ∧
          d'.key = e'.key ∧ d'.index = e'.index ∧ d'.prev = e'.prev ∧ d' = e' := by
  obtain rfl := Half.ext d0 e0 hk hx hp
  have hs := (runChunks_flatten _ d0 sendChunks).trans
    (encRun_eq e.keyLen d0 sendChunks.flatten (Half.inv_keyLen e d0 hlen hidx) hlen.symm)
  rw [← Half.encrypt_eq_runSteps] at hs
  exact ⟨_, hs, rfl, hlen, Nat.mod_lt _ (Nat.zero_lt_of_lt hidx), fun _ hpart =>
    ⟨_, Half.roundtrip e hs hpart, rfl, rfl, rfl, rfl⟩⟩

/-- … with the sender's result as a hypothesis -/
theorem Half.roundtrip_from_equal_states' (e : Exp) (e0 d0 : Half) (hlen : e0.key.length = e.keyLen)
    (hidx : e0.index < e.keyLen) (hk : d0.key = e0.key) (hx : d0.index = e0.index) (hp : d0.prev = e0.prev)
    (sendChunks recvChunks : List Bytes) (cipher : Bytes) (e' : Half)
    (hsend : runChunks (Half.encrypt e) e0 sendChunks = .ok (e', cipher))
    (hpart : recvChunks.flatten = cipher) :
    ∃ d', runChunks (Half.decrypt e) d0 recvChunks = .ok (d', sendChunks.flatten) ∧
      d'.key = e'.key ∧ d'.index = e'.index ∧ d'.prev = e'.prev ∧
      e'.key.length = e.keyLen ∧ e'.index < e.keyLen := by
  obtain ⟨e1, h1, _, hl, hi, _⟩ := Half.roundtrip_from_equal_states e e0 d0 hlen hidx hk hx hp sendChunks
  obtain rfl : e1 = e' := (Prod.mk.inj (Out.ok.inj (h1.symm.trans hsend))).1
  obtain rfl := Half.ext d0 e0 hk hx hp
  exact ⟨_, Half.roundtrip e hsend hpart, rfl, rfl, rfl, hl, hi⟩

/-- the fresh pair, the two halves made by their own constructors; nothing is asked of the key -/
theorem Half.roundtrip_fresh (C : Crypto) (e : Exp) (K : Bytes)
    (sendChunks recvChunks : List Bytes) (cipher : Bytes) (e' : Half)
    (hsend : runChunks (Half.encrypt e) (Half.newEnc C e K) sendChunks = .ok (e', cipher))
    (hpart : recvChunks.flatten = cipher) :
    ∃ d', runChunks (Half.decrypt e) (Half.newDec C e K) recvChunks = .ok (d', sendChunks.flatten) ∧
      d'.key = e'.key ∧ d'.index = e'.index ∧ d'.prev = e'.prev :=
  ⟨e', Half.newDec_eq_newEnc C e K ▸ Half.roundtrip e hsend hpart, rfl, rfl, rfl⟩

end WowSrp
