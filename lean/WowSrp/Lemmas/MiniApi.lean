/-
The `MiniApi` interpreter as `simp` runs it.  `runBody` is restated through one sequencing operator on `Option (Out _)` (`none`: no
meaning; a panic stops the run), so that the outcome of a callee is passed on by `seq_bind` / `seq_some` and no proof splits on it; a call
is seen through `Prims.call`, so a theorem about a translated function can be stated for ANY environment that answers the calls that occur,
and holds for the hand-written table and for the linked callees alike.  `Ret.eval` runs by its own equations: a tail passes an outcome on
through `Option.map`, or (`okTup`, `expect`) is reached with the outcome known.

The equations are `scoped simp` (the one `attribute` command at the end of the file lists the set): `open MiniApi` switches them on, as
Props/Source/Api*.lean do, and a file that only imports this one gets none of them.  Inside the set a bind of `Out` is written
`x.bind f` (`out_bind_def`), the opposite of the `>>=` form of Model/Basic.lean and Lemmas/Out.lean: with `>>=` simp goes looking for a
`LawfulMonad` instance at every step, which is slow to check.
-/
import WowSrp.Model.MiniApi
namespace WowSrp.MiniApi

def seq {α β : Type} (o : Option (Out α)) (k : α → Option (Out β)) : Option (Out β) :=
  match o with
  | none => none
  | some (.panic m) => some (.panic m)
  | some (.ok a) => k a

def Prims.call (P : Prims) (fn : String) (vs : List AVal) : Option (Out AVal) := (P fn).map (· vs)

/-- the rest of a body as a function of the value just bound (`none`: `let`; `some none`: `let .. ?`; `some (some msg)`: `.expect(msg)`).
    Named, so that `simp` does not enter it before it knows that value. -/
def letK (P : Prims) (T : String) (how : Option (Option String)) (n : String) (rest : List Stmt) (tail : Ret) : AVal × St → Option Res
  | (v, s) => match how, v with
    | none, v => runBody P T rest tail (bindVar s n v)
    | some _, .ok v => runBody P T rest tail (bindVar s n v)
    | some none, .err e => some (.ok (.err e, s.self, s.draws))
    | some (some msg), .err _ => some (.panic msg)
    | _, _ => none

section
variable {α β γ : Type}
theorem seq_ok (a : α) (k : α → Option (Out β)) : seq (some (.ok a)) k = k a := rfl
theorem seq_panic (m : String) (k : α → Option (Out β)) : seq (some (.panic m)) k = some (.panic m) := rfl
theorem seq_bind (o : Out α) (f : α → Out β) (k : β → Option (Out γ)) :
    seq (some (o.bind f)) k = seq (some o) (fun a => seq (some (f a)) k) := by cases o <;> rfl
theorem seq_some (o : Out α) (k : α → Out β) : seq (some o) (fun a => some (k a)) = some (o.bind k) := by cases o <;> rfl

theorem out_ok_bind (a : α) (f : α → Out β) : (Out.ok a).bind f = f a := rfl
theorem out_panic_bind (m : String) (f : α → Out β) : (Out.panic m).bind f = .panic m := rfl
theorem out_bind_def (x : Out α) (f : α → Out β) : x >>= f = x.bind f := rfl
theorem out_bind_assoc (x : Out α) (f : α → Out β) (g : β → Out γ) :
    (x.bind f).bind g = x.bind fun a => (f a).bind g := by cases x <;> rfl
end

variable (P : Prims) (T : String) (s : St)

theorem lookup_nil (m : String) : lookup [] m = none := rfl
theorem lookup_cons (n m : String) (v : AVal) (fs : Fields) :
    lookup ((n, v) :: fs) m = if n = m then some v else lookup fs m := by
  simp only [lookup, List.find?_cons]; split <;> simp_all

theorem Rhs.eval_atom (a : Atom) : (Rhs.atom a).eval P T s = (a.val s T).map fun v => .ok (v, s) := rfl
theorem Rhs.eval_mk (name : String) (fs : List (String × Atom)) :
    (Rhs.mk name fs).eval P T s = (fieldsVal s T fs).map fun v => .ok (.struct name v, s) := rfl
theorem Rhs.eval_draw (kind : String) (env self : Fields) (d : Bytes) (r : List Bytes) :
    (Rhs.draw kind).eval P T ⟨env, self, d :: r⟩
      = if drawKinds.contains kind then some (.ok (.bytes d, ⟨env, self, r⟩)) else none := rfl
theorem Rhs.eval_call (fn : String) (args : List Atom) :
    (Rhs.call fn args).eval P T s
      = (atomsVal s T args).bind fun vs => (P.call fn vs).map fun o => o.bind fun v => .ok (v, s) := by
  simp only [Rhs.eval, Prims.call, bind, Option.bind]
  cases P fn <;> cases atomsVal s T args <;> rfl
theorem Rhs.eval_eq (a b : Atom) :
    (Rhs.eq a b).eval P T s
      = (a.val s T).bind fun x => (b.val s T).bind fun y => (eqVal x y).map fun r => .ok (.bool r, s) := by
  simp only [Rhs.eval, bind, Option.bind]
  cases a.val s T <;> cases b.val s T <;> try rfl
  rename_i x y; dsimp only; cases eqVal x y <;> rfl

theorem runBody_nil (tail : Ret) : runBody P T [] tail s = tail.eval P T s := by rw [runBody]
theorem runBody_let (n : String) (r : Rhs) (rest : List Stmt) (tail : Ret) :
    runBody P T (.let_ n r :: rest) tail s = seq (r.eval P T s) (letK P T none n rest tail) := by
  rw [runBody]; rcases r.eval P T s with _ | _ | _ <;> rfl
theorem runBody_letTry (n : String) (r : Rhs) (rest : List Stmt) (tail : Ret) :
    runBody P T (.letTry n r :: rest) tail s = seq (r.eval P T s) (letK P T (some none) n rest tail) := by
  rw [runBody]; rcases r.eval P T s with _ | ⟨⟨_ | _, _⟩⟩ | _ <;> rfl
theorem runBody_letExpect (n : String) (r : Rhs) (msg : String) (rest : List Stmt) (tail : Ret) :
    runBody P T (.letExpect n r msg :: rest) tail s = seq (r.eval P T s) (letK P T (some (some msg)) n rest tail) := by
  rw [runBody]; rcases r.eval P T s with _ | ⟨⟨_ | _, _⟩⟩ | _ <;> rfl
theorem runBody_ifNeRet (a b : Atom) (ret : Ret) (rest : List Stmt) (tail : Ret) :
    runBody P T (.ifNeRet a b ret :: rest) tail s
      = (a.val s T).bind fun x => (b.val s T).bind fun y => (eqVal x y).bind fun c =>
          if c then runBody P T rest tail s else ret.eval P T s := by
  rw [runBody]; cases a.val s T <;> cases b.val s T <;> try rfl
  rename_i x y; dsimp only [Option.bind]; rcases eqVal x y with _ | _ | _ <;> rfl
theorem runBody_drawField (f : String) (rest : List Stmt) (tail : Ret) (env self : Fields) (d : Bytes) (r : List Bytes) :
    runBody P T (.drawField f :: rest) tail ⟨env, self, d :: r⟩
      = (lookup self f).bind fun _ => runBody P T rest tail ⟨env, setField self f (.bytes d), r⟩ := by
  rw [runBody]; cases lookup self f <;> rfl

theorem ApiFn.run_mk (params : List String) (body : List Stmt) (tail : Ret) (self : Fields) (args : List AVal)
    (draws : List Bytes) :
    (ApiFn.mk T params body tail none).run P self args draws
      = if args.length = params.length then runBody P T body tail ⟨params.zip args, self, draws⟩ else none := rfl

attribute [scoped simp] Atom.val atomsVal fieldsVal eqVal bindVar setField drawKinds letK Ret.eval
  seq_ok seq_panic seq_bind seq_some out_ok_bind out_panic_bind out_bind_def out_bind_assoc lookup_nil lookup_cons
  Rhs.eval_atom Rhs.eval_mk Rhs.eval_draw Rhs.eval_call Rhs.eval_eq
  runBody_nil runBody_let runBody_letTry runBody_letExpect runBody_ifNeRet runBody_drawField ApiFn.run_mk

end WowSrp.MiniApi
