/-
The default modulus `nBig` (`LargeSafePrime::default().to_bigint()`) is prime — Pratt certificate (a table,
checked by one evaluation) in the generated `Lemmas/PrattCert.lean`.
-/
import WowSrp.Lemmas.PrattCert
import WowSrp.Lemmas.Modulus
namespace WowSrp

/-- **N is prime.** (`nBig_val`: the certificate's first row is the same numeral, written in decimal) -/
theorem nBig_prime : Nat.Prime nBig := by
  rw [nBig_val]
  exact prattTable_sound prattN prattN_ok _ (List.mem_cons_self ..)

theorem nBig_lt : nBig < 2 ^ 256 := nBig_lt_256_pow_32

theorem one_lt_nBig : 1 < nBig := nBig_prime.one_lt

end WowSrp
