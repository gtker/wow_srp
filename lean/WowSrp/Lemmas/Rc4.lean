/-
The RC4 model (`Model/Wrath.lean`) as total functions under the size invariant `Rc4.Inv`: the key
schedule and the constructors as equations (`Rc4.new_eq`, `wrathGen`, `InnerCrypto.new_eq`), a call as
`advance` / `stream` (`Rc4.apply_eq`: the keystream does not depend on the data), hence involution,
injectivity, a call cut in two, and the round trip of a chunked stream (`Rc4.flow`). Core Lean only.
-/
import WowSrp.Lemmas.Header
import WowSrp.Model.Wrath
namespace WowSrp

/-- the invariant: the permutation table has its 256 entries (`[u8; 256]` in the Rust). C14's statements and
    `WClientDec.Inv` / `WServerEnc.Inv` (Lemmas/NoPanicHeader) write `r.state.size = 256` out; that is `r.Inv`
    unfolded, so a proof of either is accepted where the other is asked. -/
def Rc4.Inv (r : Rc4) : Prop := r.state.size = 256

theorem Rc4.Inv.lt {r : Rc4} (h : r.Inv) (b : UInt8) : b.toNat < r.state.size := by
  have := b.toNat_lt; unfold Rc4.Inv at h; omega

theorem getOut_eq_pure (s : Array UInt8) (a : Nat) (h : a < s.size) : getOut s a = .ok s[a]! := by
  simp [getOut, h]

/-- `swap` as a total function (used only where both indices are in range) -/
def swapPure (s : Array UInt8) (a b : Nat) : Array UInt8 := (s.setIfInBounds a s[b]!).setIfInBounds b s[a]!

theorem swapPure_size (s : Array UInt8) (a b : Nat) : (swapPure s a b).size = s.size := by
  simp [swapPure]

theorem swapOut_eq_pure (s : Array UInt8) (a b : Nat) (ha : a < s.size) (hb : b < s.size) :
    swapOut s a b = .ok (swapPure s a b) := by
  simp [swapOut, swapPure, ha, hb]

/-- in range it is the library's `Array.swap`, whose lemmas then apply (`Array.swap_swap` below) -/
theorem swapPure_eq_swap (s : Array UInt8) (a b : Nat) (ha : a < s.size) (hb : b < s.size) :
    swapPure s a b = s.swap a b ha hb := by
  simp only [swapPure, Array.swap_def, Array.setIfInBounds_def, Array.size_set, getElem!_pos, ha, hb, dite_true]

theorem swapPure_swapPure (s : Array UInt8) (a b : Nat) (ha : a < s.size) (hb : b < s.size) :
    swapPure (swapPure s a b) a b = s := by
  rw [swapPure_eq_swap s a b ha hb, swapPure_eq_swap _ a b (by rwa [Array.size_swap]) (by rwa [Array.size_swap]),
    Array.swap_swap]

/-- the KSA loop as a total function (non-empty key) -/
def ksaPure (key : Bytes) : Nat → Nat → Array UInt8 → UInt8 → Array UInt8
  | 0, _, s, _ => s
  | fuel+1, i, s, j =>
    let j' := j + s[i]! + key[i % key.length]!
    ksaPure key fuel (i+1) (swapPure s i j'.toNat) j'

theorem ksaPure_size (key : Bytes) (fuel i : Nat) (s : Array UInt8) (j : UInt8) :
    (ksaPure key fuel i s j).size = s.size := by
  induction fuel generalizing i s j with
  | zero => rfl
  | succ n ih => simp only [ksaPure, ih, swapPure_size]

theorem ksaLoop_eq_pure (key : Bytes) (hk : key ≠ []) (fuel i : Nat) (s : Array UInt8) (j : UInt8)
    (hs : s.size = 256) (hi : i + fuel ≤ 256) :
    ksaLoop key fuel i s j = .ok (ksaPure key fuel i s j) := by
  induction fuel generalizing i s j with
  | zero => rfl
  | succ n ih =>
    have hlen : 0 < key.length := List.length_pos_iff.mpr hk
    have hlt : i % key.length < key.length := Nat.mod_lt _ hlen
    have hi' : i < s.size := by omega
    simp only [ksaLoop, ksaPure, List.getElem?_eq_getElem hlt]
    simp only [bind, Out.bind, getOut_eq_pure s i hi']
    have hj : (j + s[i]! + key[i % key.length]).toNat < s.size := by
      have := UInt8.toNat_lt (j + s[i]! + key[i % key.length]); omega
    rw [swapOut_eq_pure s i _ hi' hj]
    have e : key[i % key.length]! = key[i % key.length] := by simp [hlt]
    rw [e]
    exact ih (i+1) _ _ (by rw [swapPure_size]; exact hs) (by omega)

/-- with the empty key `key.iter().cycle()` yields nothing: the loop body never runs -/
theorem ksaLoop_nil (fuel i : Nat) (s : Array UInt8) (j : UInt8) : ksaLoop [] fuel i s j = .ok s := by
  cases fuel with
  | zero => rfl
  | succ n => simp [ksaLoop]

/-- the identity table `state[i] = i as u8` -/
def rc4Init : Array UInt8 := (Array.range 256).map UInt8.ofNat

theorem rc4Init_size : rc4Init.size = 256 := by simp [rc4Init]

/-- the table `Rc4::new(key)` ends with: the key schedule; the identity for the empty key -/
def ksaTable (key : Bytes) : Array UInt8 := if key = [] then rc4Init else ksaPure key 256 0 rc4Init 0

theorem ksaTable_size (key : Bytes) : (ksaTable key).size = 256 := by
  unfold ksaTable; split <;> simp only [ksaPure_size, rc4Init_size]

/-- the state `Rc4::new(key)` returns -/
def Rc4.keyed (key : Bytes) : Rc4 := ⟨ksaTable key, 0, 0⟩

theorem Rc4.keyed_inv (key : Bytes) : (Rc4.keyed key).Inv := ksaTable_size key

theorem Rc4.new_eq (key : Bytes) : Rc4.new key = .ok (Rc4.keyed key) := by
  unfold Rc4.keyed ksaTable Rc4.new
  change (ksaLoop key 256 0 rc4Init 0 >>= _) = _
  split
  · next hk => subst hk; rw [ksaLoop_nil]; rfl
  · next hk => rw [ksaLoop_eq_pure key hk 256 0 rc4Init 0 rc4Init_size (by omega)]; rfl

/-- state after one `pseudo_random_generation`, as a total function -/
def Rc4.next (r : Rc4) : Rc4 :=
  let i := r.i + 1
  let j := r.j + r.state[i.toNat]!
  ⟨swapPure r.state i.toNat j.toNat, i, j⟩

/-- the keystream byte that call returns -/
def Rc4.out (r : Rc4) : UInt8 :=
  let n := r.next
  n.state[(n.state[n.i.toNat]! + n.state[n.j.toNat]!).toNat]!

theorem Rc4.next_inv (r : Rc4) (h : r.Inv) : r.next.Inv := by
  simp [Rc4.Inv, Rc4.next, swapPure_size]; exact h

/-- under the invariant `pseudo_random_generation` does not panic (all five indexings are by a
    `u8` into 256 entries) and is the pure step -/
theorem Rc4.prga_pure (r : Rc4) (h : r.Inv) : r.prga = .ok (r.next, r.out) := by
  have hlt := h.lt
  have hlt' : ∀ b : UInt8, b.toNat < (swapPure r.state (r.i + 1).toNat (r.j + r.state[(r.i + 1).toNat]!).toNat).size :=
    fun b => by rw [swapPure_size]; exact hlt b
  simp only [Rc4.prga, bind, Out.bind, getOut_eq_pure _ _ (hlt _)]
  rw [swapOut_eq_pure _ _ _ (hlt _) (hlt _)]
  simp only [getOut_eq_pure _ _ (hlt' _)]
  rfl

theorem Rc4.step_pure (r : Rc4) (x : UInt8) (h : r.Inv) : r.step x = .ok (r.next, x ^^^ r.out) := by
  simp only [Rc4.step, Rc4.prga_pure r h, bind, Out.bind, pure]

/-- `step` touches the data byte only through the final xor (no invariant needed) -/
theorem Rc4.step_eq (r : Rc4) (x : UInt8) :
    r.step x = match r.prga with
      | .ok (r', v) => .ok (r', x ^^^ v)
      | .panic p => .panic p := by
  simp only [Rc4.step, bind, Out.bind, pure]
  cases r.prga with
  | ok a => rfl
  | panic p => rfl

/-- state after `n` keystream bytes -/
def Rc4.advance : Nat → Rc4 → Rc4
  | 0, r => r
  | n+1, r => Rc4.advance n r.next

/-- the next `n` keystream bytes -/
def Rc4.stream : Nat → Rc4 → Bytes
  | 0, _ => []
  | n+1, r => r.out :: Rc4.stream n r.next

theorem Rc4.advance_inv (n : Nat) (r : Rc4) (h : r.Inv) : (Rc4.advance n r).Inv := by
  induction n generalizing r with
  | zero => exact h
  | succ n ih => exact ih _ (r.next_inv h)

theorem Rc4.stream_length (n : Nat) (r : Rc4) : (Rc4.stream n r).length = n := by
  induction n generalizing r with
  | zero => rfl
  | succ n ih => simp [Rc4.stream, ih]

theorem Rc4.advance_add (m n : Nat) (r : Rc4) : Rc4.advance (m + n) r = Rc4.advance n (Rc4.advance m r) := by
  induction m generalizing r with
  | zero => simp [Rc4.advance]
  | succ m ih => rw [Nat.add_right_comm]; exact ih _

theorem Rc4.apply_eq (r : Rc4) (h : r.Inv) (xs : Bytes) :
    r.apply xs = .ok (Rc4.advance xs.length r, xorBytes xs (Rc4.stream xs.length r)) := by
  induction xs generalizing r with
  | nil => rfl
  | cons x xs ih =>
    have := ih r.next (r.next_inv h)
    simp only [Rc4.apply] at this
    simp only [Rc4.apply, runSteps, Rc4.step_pure r x h, this]
    rfl

theorem xorBytes_zero (ks : Bytes) : xorBytes (List.replicate ks.length 0) ks = ks := by
  induction ks with
  | nil => rfl
  | cons k ks ih =>
    simp only [xorBytes] at ih
    simp [xorBytes, List.replicate_succ, ih]

theorem xorBytes_length (a b : Bytes) (h : a.length = b.length) : (xorBytes a b).length = a.length := by
  simp [xorBytes, h]

theorem xorBytes_xorBytes (a b : Bytes) (h : a.length = b.length) : xorBytes (xorBytes a b) b = a := by
  induction a generalizing b with
  | nil => simp [xorBytes]
  | cons x a ih =>
    cases b with
    | nil => simp at h
    | cons y b =>
      have := ih b (by simpa using h)
      simp only [xorBytes] at this
      simp only [xorBytes, List.zipWith_cons_cons, this, UInt8.xor_assoc, UInt8.xor_self, UInt8.xor_zero]

theorem Rc4.apply_ok (r : Rc4) (data : Bytes) (hs : r.Inv) :
    ∃ r' out, r.apply data = .ok (r', out) ∧ r'.Inv ∧ out.length = data.length :=
  ⟨_, _, Rc4.apply_eq r hs data, Rc4.advance_inv _ _ hs, xorBytes_length _ _ (Rc4.stream_length ..).symm⟩

theorem Rc4.apply_inv (r r' : Rc4) (hr : r.Inv) (xs out : Bytes) (h : r.apply xs = .ok (r', out)) : r'.Inv := by
  rw [Rc4.apply_eq r hr] at h
  injection h with h; injection h with h1 _
  rw [← h1]; exact Rc4.advance_inv _ _ hr

theorem Rc4.apply_zeros (r : Rc4) (h : r.Inv) (n : Nat) :
    r.apply (List.replicate n 0) = .ok (Rc4.advance n r, Rc4.stream n r) := by
  rw [Rc4.apply_eq r h, List.length_replicate]
  have := xorBytes_zero (Rc4.stream n r)
  rw [Rc4.stream_length] at this
  rw [this]

theorem Rc4.step_involution (r : Rc4) (x : UInt8) (r' : Rc4) (y : UInt8) (h : r.step x = .ok (r', y)) :
    r.step y = .ok (r', x) := by
  rw [Rc4.step_eq] at h ⊢
  split at h <;> cases h
  simp only [UInt8.xor_assoc, UInt8.xor_self, UInt8.xor_zero]

theorem Rc4.apply_involution (r r' : Rc4) (xs cs : Bytes) (h : r.apply xs = .ok (r', cs)) :
    r.apply cs = .ok (r', xs) := runSteps_inverse _ _ Rc4.step_involution h

/-- encryption from a fixed state is injective (for data of any lengths): decrypt both sides -/
theorem Rc4.apply_injective (r r1 r2 : Rc4) (xs ys e : Bytes)
    (h1 : r.apply xs = .ok (r1, e)) (h2 : r.apply ys = .ok (r2, e)) : xs = ys := by
  have := (Rc4.apply_involution _ _ _ _ h1).symm.trans (Rc4.apply_involution _ _ _ _ h2)
  injection this with this
  exact (Prod.mk.inj this).2

theorem Rc4.apply_length (r r' : Rc4) (xs out : Bytes) (h : r.apply xs = .ok (r', out)) :
    out.length = xs.length := runSteps_length _ h

theorem MC.apply_append (r r1 r2 : Rc4) (xs ys o1 o2 : Bytes)
    (h1 : r.apply xs = .ok (r1, o1)) (h2 : r1.apply ys = .ok (r2, o2)) :
    r.apply (xs ++ ys) = .ok (r2, o1 ++ o2) := by
  unfold Rc4.apply at *
  rw [runSteps_append, h1]
  simp only [h2]

theorem Rc4.roundtrip_split (r r' : Rc4) (p1 p2 enc : Bytes) (h : r.apply (p1 ++ p2) = .ok (r', enc)) :
    ∃ r1, r.apply (enc.take p1.length) = .ok (r1, p1) ∧ r1.apply (enc.drop p1.length) = .ok (r', p2) := by
  simp only [Rc4.apply, runSteps_append] at h
  split at h
  · cases h
  · next r1 c1 h1 =>
    split at h <;> cases h
    next c2 h2 =>
    have hl := runSteps_length _ h1
    exact ⟨r1, by rw [← hl, List.take_left]; exact Rc4.apply_involution _ _ _ _ h1,
      by rw [← hl, List.drop_left]; exact Rc4.apply_involution _ _ _ _ h2⟩

theorem WServerEnc.runChunks_encrypt (s : WServerEnc) (chunks : List Bytes) :
    runChunks WServerEnc.encrypt s chunks =
      (runChunks Rc4.apply s.rc4 chunks).mapOk fun p => ({ s with rc4 := p.1 }, p.2) :=
  runChunks_mapOk Rc4.apply _ (·.rc4) (fun t r => { t with rc4 := r }) (fun _ _ => rfl) (fun _ _ _ => rfl)
    (fun _ => rfl) (fun _ _ => by rfl) s chunks

theorem WClientDec.runChunks_decrypt (c : WClientDec) (chunks : List Bytes) :
    runChunks WClientDec.decrypt c chunks =
      (runChunks Rc4.apply c.rc4 chunks).mapOk fun p => ({ c with rc4 := p.1 }, p.2) :=
  runChunks_mapOk Rc4.apply _ (·.rc4) (fun t r => { t with rc4 := r }) (fun _ _ => rfl) (fun _ _ _ => rfl)
    (fun _ => rfl) (fun _ _ => by rfl) c chunks

theorem Rc4.roundtrip_chunks (r e' : Rc4) (sendChunks recvChunks : List Bytes) (cipher : Bytes)
    (hsend : runChunks Rc4.apply r sendChunks = .ok (e', cipher)) (hpart : recvChunks.flatten = cipher) :
    runChunks Rc4.apply r recvChunks = .ok (e', sendChunks.flatten) :=
  runChunks_roundtrip Rc4.step Rc4.step Rc4.step_involution hsend hpart

/-- from any intact state every chunked stream goes through, and a receiver in the same state recovers it
    from any chunking of the ciphertext and ends in the sender's state -/
theorem Rc4.flow (r : Rc4) (h : r.Inv) (sendChunks recvChunks : List Bytes) :
    ∃ e' cipher, runChunks Rc4.apply r sendChunks = .ok (e', cipher) ∧
      cipher.length = sendChunks.flatten.length ∧
      (recvChunks.flatten = cipher → runChunks Rc4.apply r recvChunks = .ok (e', sendChunks.flatten)) := by
  obtain ⟨e', cipher, hsend, _, hlen⟩ := r.apply_ok sendChunks.flatten h
  have hsend := (runChunks_flatten Rc4.step r sendChunks).trans hsend
  exact ⟨e', cipher, hsend, hlen, Rc4.roundtrip_chunks _ e' _ _ _ hsend⟩

/-- the same through the server's encrypter and the client's decrypter, which carry a header buffer along
    (in the shape of `C09_roundtrip_s2c` and `WrathFlowS2C`, which list the sender's untouched buffer with the
    receiver's facts) -/
theorem WServerEnc.flow (s : WServerEnc) (c : WClientDec) (heq : c.rc4 = s.rc4) (h : s.rc4.Inv)
    (sendChunks recvChunks : List Bytes) :
    ∃ s' cipher, runChunks WServerEnc.encrypt s sendChunks = .ok (s', cipher) ∧
      cipher.length = sendChunks.flatten.length ∧
      (recvChunks.flatten = cipher →
        ∃ c', runChunks WClientDec.decrypt c recvChunks = .ok (c', sendChunks.flatten) ∧
          c'.rc4 = s'.rc4 ∧ c'.header = c.header ∧ s'.serverHeader = s.serverHeader) := by
  obtain ⟨e', cipher, hsend, hlen, hrecv⟩ := Rc4.flow s.rc4 h sendChunks recvChunks
  exact ⟨{ s with rc4 := e' }, cipher, by rw [WServerEnc.runChunks_encrypt, hsend]; rfl, hlen, fun hpart =>
    ⟨{ c with rc4 := e' }, by rw [WClientDec.runChunks_decrypt, heq, hrecv hpart]; rfl, rfl, rfl, rfl⟩⟩

/-- the generator `InnerCrypto::new(K, key)` hands out: keyed with HMAC(key, K), `Gen.wrathDrop` bytes on -/
def wrathGen (C : Crypto) (key K : Bytes) : Rc4 := Rc4.advance Gen.wrathDrop (Rc4.keyed (C.hmac key K))

theorem wrathGen_def (C : Crypto) (key K : Bytes) :
    wrathGen C key K = Rc4.advance Gen.wrathDrop (Rc4.keyed (C.hmac key K)) := rfl

theorem wrathGen_inv (C : Crypto) (key K : Bytes) : (wrathGen C key K).Inv :=
  Rc4.advance_inv _ _ (Rc4.keyed_inv _)

theorem InnerCrypto.new_eq (C : Crypto) (K key : Bytes) : InnerCrypto.new C K key = .ok (wrathGen C key K) := by
  simp only [InnerCrypto.new, Rc4.new_eq, Out.bind_ok, Rc4.apply_zeros _ (Rc4.keyed_inv _), Out.pure_eq, wrathGen]

-- `cases` / `rfl` on a term that mentions it would otherwise run `Rc4.advance` 1024 steps
attribute [irreducible] wrathGen

/-- which constant each half is keyed with (generated flags evaluated) -/
theorem wrath_key_assignment :
    keyClientEnc = Gen.wrathS ∧ keyServerDec = Gen.wrathS ∧ keyServerEnc = Gen.wrathR ∧ keyClientDec = Gen.wrathR := by
  decide

/-! the four halves and the two pairs: client → server under S, server → client under R -/
theorem WClientEnc.new_eq (C : Crypto) (K : Bytes) : WClientEnc.new C K = .ok (wrathGen C Gen.wrathS K) := by
  rw [WClientEnc.new, wrath_key_assignment.1, InnerCrypto.new_eq]
theorem WServerDec.new_eq (C : Crypto) (K : Bytes) : WServerDec.new C K = .ok (wrathGen C Gen.wrathS K) := by
  rw [WServerDec.new, wrath_key_assignment.2.1, InnerCrypto.new_eq]
theorem WServerEnc.new_eq (C : Crypto) (K : Bytes) :
    WServerEnc.new C K = .ok ⟨wrathGen C Gen.wrathR K, List.replicate 5 0⟩ := by
  rw [WServerEnc.new, wrath_key_assignment.2.2.1, InnerCrypto.new_eq]; rfl
theorem WClientDec.new_eq (C : Crypto) (K : Bytes) :
    WClientDec.new C K = .ok ⟨wrathGen C Gen.wrathR K, List.replicate 4 0⟩ := by
  rw [WClientDec.new, wrath_key_assignment.2.2.2, InnerCrypto.new_eq]; rfl
theorem WClientCrypto.new_eq (C : Crypto) (K : Bytes) :
    WClientCrypto.new C K = .ok ⟨⟨wrathGen C Gen.wrathR K, List.replicate 4 0⟩, wrathGen C Gen.wrathS K⟩ := by
  rw [WClientCrypto.new, WClientDec.new_eq, WClientEnc.new_eq]; rfl
theorem WServerCrypto.new_eq (C : Crypto) (K : Bytes) :
    WServerCrypto.new C K = .ok ⟨wrathGen C Gen.wrathS K, ⟨wrathGen C Gen.wrathR K, List.replicate 5 0⟩⟩ := by
  rw [WServerCrypto.new, WServerDec.new_eq, WServerEnc.new_eq]; rfl

end WowSrp
