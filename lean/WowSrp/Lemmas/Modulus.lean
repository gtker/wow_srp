/-
The default modulus `nBig` (`LargeSafePrime::default().to_bigint()`): its value, its size (32 bytes, top
bit set), its two byte orders, that it divides neither `g` nor `k` — all by evaluating the 32-byte
constant; its primality is `Lemmas/Pratt.lean`. Core Lean only.
-/
import WowSrp.Lemmas.LE
import WowSrp.Spec.Srp
import WowSrp.Model.Srp
namespace WowSrp

theorem nBig_val : nBig = 0x894B645E89E1535BBDAD5B8B290650530801B18EBFBF5E8FAB3C82872A3E9BB7 := by
  decide

/-- the Spec's literal is the number the Rust constant denotes -/
theorem specN_eq : Spec.N = nBig := nBig_val.symm

theorem gBig_val : gBig = 7 := rfl
theorem kBig_val : kBig = 3 := rfl

theorem nBig_pos : 0 < nBig := by rw [nBig_val]; decide

theorem nBig_lt_256_pow_32 : nBig < 256 ^ 32 := by rw [nBig_val]; decide

theorem lt_256_pow_32_of_lt_nBig {n : Nat} (h : n < nBig) : n < 256 ^ 32 :=
  Nat.lt_trans h nBig_lt_256_pow_32

/-- numbers that travel are reduced modulo N, so their 32 bytes decode to them -/
theorem ofLE_leN_of_lt_nBig {n : Nat} (h : n < nBig) : ofLE (leN 32 n) = n :=
  ofLE_leN 32 n (lt_256_pow_32_of_lt_nBig h)

/-- N has its top bit set: twice N no longer fits 32 bytes -/
theorem two_nBig_ge : 256 ^ 32 ≤ 2 * nBig := by rw [nBig_val]; decide

theorem nBig_odd : nBig % 2 = 1 := by rw [nBig_val]

theorem specN_pos : 0 < Spec.N := specN_eq ▸ nBig_pos
theorem specN_lt : Spec.N < 256 ^ 32 := specN_eq ▸ nBig_lt_256_pow_32

theorem only_two_multiples_aux (N M n : Nat) (h2 : M ≤ 2 * N) (h : n < M) :
    n % N = 0 ↔ n = 0 ∨ n = N := by
  constructor
  · intro hm
    obtain ⟨k, rfl⟩ := Nat.dvd_of_mod_eq_zero hm
    match k with
    | 0 => left; rfl
    | 1 => right; omega
    | k + 2 =>
      exfalso
      have : N * 2 ≤ N * (k + 2) := Nat.mul_le_mul_left N (by omega)
      omega
  · rintro (rfl | rfl)
    · exact Nat.zero_mod _
    · exact Nat.mod_self _

theorem only_two_multiples_bytes (bs : Bytes) (h : bs.length ≤ 32) :
    ofLE bs % nBig = 0 ↔ ofLE bs = 0 ∨ ofLE bs = nBig :=
  only_two_multiples_aux nBig (256 ^ 32) _ two_nBig_ge (ofLE_lt_of_length_le h)

/-- the two byte orders of the constant in primes.rs denote one number -/
theorem largeSafePrime_LE_eq_BE : ofLE Gen.largeSafePrimeLE = ofBE Gen.largeSafePrimeBE := by
  decide

theorem largeSafePrimeBE_eq_reverse : Gen.largeSafePrimeBE = Gen.largeSafePrimeLE.reverse := by
  decide

theorem largeSafePrimeLE_length : Gen.largeSafePrimeLE.length = 32 := by decide

theorem leN_nBig : leN 32 nBig = Gen.largeSafePrimeLE :=
  largeSafePrimeLE_length ▸ leN_ofLE Gen.largeSafePrimeLE

theorem ofLE_eq_nBig_iff (bs : Bytes) (h : bs.length = 32) :
    ofLE bs = nBig ↔ bs = Gen.largeSafePrimeLE :=
  ⟨fun hv => ofLE_inj _ _ (by rw [h, largeSafePrimeLE_length]) hv, fun hb => by rw [hb, nBig]⟩

theorem gBig_not_dvd : ¬ nBig ∣ gBig :=
  Nat.not_dvd_of_pos_of_lt (by decide) (by rw [nBig_val, gBig_val]; decide)

theorem kBig_not_dvd : ¬ nBig ∣ kBig :=
  Nat.not_dvd_of_pos_of_lt (by decide) (by rw [nBig_val, kBig_val]; decide)

end WowSrp
