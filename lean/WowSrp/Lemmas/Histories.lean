/-
The histories of C12: operations on a header-crypto object (encrypt or decrypt a chunk, split, clone,
unsplit), the objects of the three expansions with their steps, and the interleaving lemma
`opsRun_interleaving`: an object whose steps project onto a plain pair of byte loops (`pairStep`) runs a
history as its two directions would run separately, each given its chunks in one call. Core Lean only.
-/
import WowSrp.Lemmas.Header
import WowSrp.Lemmas.MapOk
import WowSrp.Model.Wrath
namespace WowSrp

/-- the operations of C12: encrypt a chunk, decrypt a chunk, split the object into its halves, clone it
    and continue on the clone, re-join the halves -/
inductive Op where
  | enc (d : Bytes)
  | dec (d : Bytes)
  | split
  | clone
  | unsplit
deriving Repr, DecidableEq

/-- all bytes sent through the encrypting direction, in order -/
def encChunks : List Op → Bytes
  | [] => []
  | .enc d :: ops => d ++ encChunks ops
  | _ :: ops => encChunks ops

/-- all bytes sent through the decrypting direction, in order -/
def decChunks : List Op → Bytes
  | [] => []
  | .dec d :: ops => d ++ decChunks ops
  | _ :: ops => decChunks ops

/-- one operation on a plain pair of direction states: `enc` touches the first component only,
    `dec` the second only, everything else nothing -/
def pairStep {E D : Type} (fe : E → Bytes → Out (E × Bytes)) (fd : D → Bytes → Out (D × Bytes)) :
    E × D → Op → Out ((E × D) × Bytes × Bytes)
  | (en, de), .enc d =>
    match fe en d with
    | .panic p => .panic p
    | .ok (en', o) => .ok ((en', de), o, [])
  | (en, de), .dec d =>
    match fd de d with
    | .panic p => .panic p
    | .ok (de', o) => .ok ((en, de'), [], o)
  | s, _ => .ok (s, [], [])

/-- a list of operations run with any step function, outputs collected per direction -/
def opsRun {σ : Type} (step : σ → Op → Out (σ × Bytes × Bytes)) : σ → List Op → Out (σ × Bytes × Bytes)
  | s, [] => .ok (s, [], [])
  | s, op :: ops =>
    match step s op with
    | .panic p => .panic p
    | .ok (s', a, b) =>
      match opsRun step s' ops with
      | .panic p => .panic p
      | .ok (s'', as, bs) => .ok (s'', a ++ as, b ++ bs)

/-- a Vanilla/TBC header-crypto value during a history: the combined object, or its two halves
    after `split` -/
inductive Obj where
  | comb (hc : HeaderCrypto)
  | halves (enc dec : Half)
deriving Repr, DecidableEq

/-- the half that currently handles the sending direction -/
def Obj.encHalf : Obj → Half
  | .comb hc => hc.encrypt
  | .halves en _ => en
/-- the half that currently handles the receiving direction -/
def Obj.decHalf : Obj → Half
  | .comb hc => hc.decrypt
  | .halves _ de => de

/-- one operation: new object, bytes produced by the encrypting direction, bytes produced by the
    decrypting direction.
    * `enc` / `dec` go through the facade (`HeaderCrypto::encrypt` / `decrypt`) on a combined object
      and through `EncrypterHalf::encrypt` / `DecrypterHalf::decrypt` on split halves;
    * `split` is `HeaderCrypto::split` (nothing to do when already split);
    * `clone` continues on the clone: `#[derive(Clone)]` on plain data yields an equal value;
    * `unsplit` is `EncrypterHalf::unsplit` — it exists for Vanilla only (TBC: no such method, the
      operation is skipped); when it refuses, the history continues on the halves. -/
def stepOp (e : Exp) : Obj → Op → Out (Obj × Bytes × Bytes)
  | .comb hc, .enc d =>
    match hc.encryptData e d with
    | .panic p => .panic p
    | .ok (hc', o) => .ok (.comb hc', o, [])
  | .halves en de, .enc d =>
    match en.encrypt e d with
    | .panic p => .panic p
    | .ok (en', o) => .ok (.halves en' de, o, [])
  | .comb hc, .dec d =>
    match hc.decryptData e d with
    | .panic p => .panic p
    | .ok (hc', o) => .ok (.comb hc', [], o)
  | .halves en de, .dec d =>
    match de.decrypt e d with
    | .panic p => .panic p
    | .ok (de', o) => .ok (.halves en de', [], o)
  | .comb hc, .split => .ok (.halves hc.split.1 hc.split.2, [], [])
  | .halves en de, .split => .ok (.halves en de, [], [])
  | o, .clone => .ok (o, [], [])
  | .comb hc, .unsplit => .ok (.comb hc, [], [])
  | .halves en de, .unsplit =>
    match e with
    | .vanilla =>
      match en.unsplit de with
      | some hc => .ok (.comb hc, [], [])
      | none => .ok (.halves en de, [], [])
    | .tbc => .ok (.halves en de, [], [])

/-- a whole history; outputs concatenated per direction -/
def runOps (e : Exp) : Obj → List Op → Out (Obj × Bytes × Bytes) := opsRun (stepOp e)

/-- Wrath `ClientCrypto`: the history is told on the pair, whose two fields are the halves `split` hands out
    (`WClientCrypto.split`), so `split` / `clone` leave the value as it is; Wrath has no `unsplit`. `enc` is
    `ClientEncrypterHalf::encrypt`, `dec` is `ClientDecrypterHalf::decrypt`. -/
def wClientStep : WClientCrypto → Op → Out (WClientCrypto × Bytes × Bytes)
  | c, .enc d =>
    match c.encrypt.apply d with
    | .panic p => .panic p
    | .ok (r, o) => .ok ({ c with encrypt := r }, o, [])
  | c, .dec d =>
    match c.decrypt.decrypt d with
    | .panic p => .panic p
    | .ok (h, o) => .ok ({ c with decrypt := h }, [], o)
  | c, _ => .ok (c, [], [])

/-- Wrath `ServerCrypto`: `enc` is `ServerEncrypterHalf::encrypt`, `dec` is
    `ServerDecrypterHalf::decrypt` -/
def wServerStep : WServerCrypto → Op → Out (WServerCrypto × Bytes × Bytes)
  | c, .enc d =>
    match c.encrypt.encrypt d with
    | .panic p => .panic p
    | .ok (h, o) => .ok ({ c with encrypt := h }, o, [])
  | c, .dec d =>
    match c.decrypt.apply d with
    | .panic p => .panic p
    | .ok (r, o) => .ok ({ c with decrypt := r }, [], o)
  | c, _ => .ok (c, [], [])

/-- `runSteps_append` as "first call, then the second with the outputs joined" -/
theorem runSteps_append_bind {σ : Type} (step : σ → UInt8 → Out (σ × UInt8)) (h : σ) (xs ys : Bytes) :
    runSteps step h (xs ++ ys) =
      (runSteps step h xs).bind fun r => (runSteps step r.1 ys).mapOk fun r' => (r'.1, r.2 ++ r'.2) := by
  rw [runSteps_append]
  rcases runSteps step h xs with ⟨h', o⟩ | p
  · simp only [Out.bind]; cases runSteps step h' ys <;> rfl
  · rfl

theorem opsRun_cons {σ : Type} (step : σ → Op → Out (σ × Bytes × Bytes)) (s : σ) (op : Op) (ops : List Op) :
    opsRun step s (op :: ops) = (step s op).bind fun r =>
      (opsRun step r.1 ops).mapOk fun r' => (r'.1, r.2.1 ++ r'.2.1, r.2.2 ++ r'.2.2) := by
  rw [opsRun]
  rcases step s op with ⟨s', a, b⟩ | p
  · simp only [Out.bind]; cases opsRun step s' ops <;> rfl
  · rfl

/-- the interleaving lemma with what was emitted earlier (`a`, `b`) in front of the outputs: this is what
    an induction over the operations can carry -/
theorem opsRun_pair_emitted {E D : Type} (se : E → UInt8 → Out (E × UInt8)) (sd : D → UInt8 → Out (D × UInt8))
    (s : E × D) (ops : List Op) (s' : E × D) (a b eo dout : Bytes) :
    (opsRun (pairStep (runSteps se) (runSteps sd)) s ops).mapOk (fun r => (r.1, a ++ r.2.1, b ++ r.2.2))
        = .ok (s', eo, dout) ↔
      (runSteps se s.1 (encChunks ops)).mapOk (fun r => (r.1, a ++ r.2)) = .ok (s'.1, eo) ∧
      (runSteps sd s.2 (decChunks ops)).mapOk (fun r => (r.1, b ++ r.2)) = .ok (s'.2, dout) := by
  induction ops generalizing s a b with
  | nil =>
    simp only [opsRun, encChunks, decChunks, runSteps_nil, Out.mapOk, Out.ok.injEq, Prod.ext_iff]
    exact ⟨fun ⟨⟨h1, h2⟩, h3, h4⟩ => ⟨⟨h1, h3⟩, h2, h4⟩, fun ⟨⟨h1, h3⟩, h2, h4⟩ => ⟨⟨h1, h2⟩, h3, h4⟩⟩
  | cons op ops ih =>
    obtain ⟨en, de⟩ := s
    rw [opsRun_cons]
    cases op with
    | enc d =>
      simp only [pairStep, encChunks, decChunks, runSteps_append_bind]
      rcases runSteps se en d with ⟨en1, o⟩ | p
      · simpa only [Out.bind, Out.mapOk_mapOk, List.nil_append, List.append_assoc] using ih (en1, de) (a ++ o) b
      · exact ⟨nofun, fun h => nomatch h.1⟩
    | dec d =>
      simp only [pairStep, encChunks, decChunks, runSteps_append_bind]
      rcases runSteps sd de d with ⟨de1, o⟩ | p
      · simpa only [Out.bind, Out.mapOk_mapOk, List.nil_append, List.append_assoc] using ih (en, de1) a (b ++ o)
      · exact ⟨nofun, fun h => nomatch h.2⟩
    | split | clone | unsplit =>
      simpa only [pairStep, encChunks, decChunks, Out.bind, Out.mapOk_mapOk, List.nil_append] using ih (en, de) a b

/-- the interleaving lemma: a run over a pair is the two directions run separately, each fed its chunks in one call -/
theorem opsRun_pair_iff {E D : Type} (se : E → UInt8 → Out (E × UInt8)) (sd : D → UInt8 → Out (D × UInt8))
    (s : E × D) (ops : List Op) (s' : E × D) (eo dout : Bytes) :
    opsRun (pairStep (runSteps se) (runSteps sd)) s ops = .ok (s', eo, dout) ↔
      runSteps se s.1 (encChunks ops) = .ok (s'.1, eo) ∧ runSteps sd s.2 (decChunks ops) = .ok (s'.2, dout) := by
  simpa only [List.nil_append, Prod.eta, Out.mapOk_id] using opsRun_pair_emitted se sd s ops s' [] [] eo dout

theorem opsRun_proj {σ τ : Type} (step₁ : σ → Op → Out (σ × Bytes × Bytes))
    (step₂ : τ → Op → Out (τ × Bytes × Bytes)) (proj : σ → τ)
    (hstep : ∀ s op, (step₁ s op).mapOk (fun r => (proj r.1, r.2)) = step₂ (proj s) op)
    (s : σ) (ops : List Op) :
    (opsRun step₁ s ops).mapOk (fun r => (proj r.1, r.2)) = opsRun step₂ (proj s) ops := by
  induction ops generalizing s with
  | nil => rfl
  | cons op ops ih =>
    rw [opsRun_cons, opsRun_cons, ← hstep]
    cases step₁ s op with
    | panic p => rfl
    | ok r =>
      show ((opsRun step₁ r.1 ops).mapOk _).mapOk _ = (opsRun step₂ (proj r.1) ops).mapOk _
      rw [← ih, Out.mapOk_mapOk, Out.mapOk_mapOk]

/-- projection + interleaving, for any object whose steps project (by `pe`, `pd`) onto a plain pair of byte loops -/
theorem opsRun_interleaving {σ E D : Type} (step : σ → Op → Out (σ × Bytes × Bytes))
    (se : E → UInt8 → Out (E × UInt8)) (sd : D → UInt8 → Out (D × UInt8)) (pe : σ → E) (pd : σ → D)
    (hstep : ∀ s op, (step s op).mapOk (fun r => ((pe r.1, pd r.1), r.2)) =
      pairStep (runSteps se) (runSteps sd) (pe s, pd s) op)
    (s : σ) (ops : List Op) (eo dout : Bytes) (en' : E) (de' : D) :
    (∃ s', opsRun step s ops = .ok (s', eo, dout) ∧ pe s' = en' ∧ pd s' = de') ↔
      runSteps se (pe s) (encChunks ops) = .ok (en', eo) ∧ runSteps sd (pd s) (decChunks ops) = .ok (de', dout) := by
  rw [← opsRun_pair_iff se sd (pe s, pd s) ops (en', de') eo dout,
    ← opsRun_proj step _ (fun s => (pe s, pd s)) hstep, Out.mapOk_eq_ok_iff]
  exact ⟨fun ⟨s', h1, h2, h3⟩ => ⟨_, h1, by rw [h2, h3]⟩,
    fun ⟨⟨s', a, b⟩, h1, h2⟩ => by
      simp only [Prod.mk.injEq] at h2
      obtain ⟨⟨h2, h3⟩, rfl, rfl⟩ := h2
      exact ⟨s', h1, h2.symm, h3.symm⟩⟩

/-! the steps of the two Wrath pairs project onto their two RC4 states (Vanilla / TBC objects: `C12_step_projection`) -/
theorem wClientStep_projection (c : WClientCrypto) (op : Op) :
    (wClientStep c op).mapOk (fun r => ((r.1.encrypt, r.1.decrypt.rc4), r.2))
      = pairStep Rc4.apply Rc4.apply (c.encrypt, c.decrypt.rc4) op := by
  cases op with
  | enc d =>
    simp only [wClientStep, pairStep]
    cases c.encrypt.apply d <;> rfl
  | dec d =>
    simp only [wClientStep, pairStep, WClientDec.decrypt]
    cases c.decrypt.rc4.apply d <;> rfl
  | split | clone | unsplit => rfl

theorem wServerStep_projection (c : WServerCrypto) (op : Op) :
    (wServerStep c op).mapOk (fun r => ((r.1.encrypt.rc4, r.1.decrypt), r.2))
      = pairStep Rc4.apply Rc4.apply (c.encrypt.rc4, c.decrypt) op := by
  cases op with
  | enc d =>
    simp only [wServerStep, pairStep, WServerEnc.encrypt]
    cases c.encrypt.rc4.apply d <;> rfl
  | dec d =>
    simp only [wServerStep, pairStep]
    cases c.decrypt.apply d <;> rfl
  | split | clone | unsplit => rfl

end WowSrp
