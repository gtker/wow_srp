/-
Forms of the executable definitions that the kernel evaluates quickly, each proved equal to the original,
for the tests that run `decide +kernel` on concrete inputs. The kernel reduces by substitution and shares
nothing but what its cache happens to catch, so what matters is the shape of the evaluated term, not the
asymptotics of the program.

* The identity table of `Rc4::new` (`Model/Wrath.lean`; `rc4Init` in `Lemmas/Rc4.lean`) is
  `(Array.range 256).map UInt8.ofNat`. `Array.range` builds its array by 256 `push`es, which the kernel
  replays one by one; the same table from `List.range` is there at once. Use: `rw [Array.map_range]`.
* String literals. The kernel reads `"abc"` as `String.ofList ['a', 'b', 'c']`, a UTF-8 `ByteArray`, and
  `toList` decodes it again, character by character, and `ByteArray.toList` gets dearer with every
  byte. `rw` sees a literal the same way, so `rw [String.toList_ofList]` (core) and
  `rw [utf8_ofList]` put the list of characters there without any decoding. Use:
  `rw [unhex, String.toList_ofList]`.
* SHA-1. `Sha1.compress` keeps the schedule in an array that grows by `push` and reads it back through
  `w[i]!`; every read walks a chain of up to 64 nested `push`es. `compressFast` computes the same 80
  words on a list kept newest first, where the four words a step needs sit at fixed offsets from the
  head, and feeds them to `round` in one pass. `compress_eq` holds for every block because a block that
  is not 16 words long falls back to `compress`; `sha1` only ever produces 64-byte blocks.
  Use: `rw [Crypto.real_eq_fast]`.
* RC4. `Spec.Rc4` keeps the table as a `List Nat` and swaps with `List.set`; after `k` swaps the table is
  a term of `2k` nested `set`s and every cell read walks through all of them. `Spec.Packed` keeps the
  table as ONE natural number, eight bits per entry: `get` is a shift, `swap` two xors, computed on GMP
  numbers. Use: `rw [Spec.Packed.Rc4.init_eq, Spec.Packed.Rc4.keystream_eq]`.
-/
import WowSrp.Model.Crypto
import WowSrp.Spec.Rc4

namespace WowSrp

theorem Array.map_range {α : Type} (n : Nat) (f : Nat → α) :
    (Array.range n).map f = ((List.range n).map f).toArray := by
  rw [← List.toArray_range, List.map_toArray]

theorem ByteArray.toList_loop (bs : ByteArray) (i : Nat) (r : List UInt8) :
    ByteArray.toList.loop bs i r = r.reverse ++ bs.data.toList.drop i := by
  fun_induction ByteArray.toList.loop bs i r with
  | case1 i r h ih =>
    have h' : i < bs.data.toList.length := h
    rw [ih, List.reverse_cons, List.append_assoc, List.drop_eq_getElem_cons h']
    simp [ByteArray.get!, h]
  | case2 i r h => rw [List.drop_of_length_le (Nat.le_of_not_lt h), List.append_nil]

theorem utf8_ofList (l : List Char) :
    (String.ofList l).toUTF8.toList = l.flatMap String.utf8EncodeChar := by
  rw [String.toUTF8_eq_toByteArray, String.toByteArray_ofList, List.utf8Encode, ByteArray.toList,
    ByteArray.toList_loop, List.toList_data_toByteArray]
  rfl

end WowSrp

namespace WowSrp.Sha1

/-- `n` more words of the message schedule; the list is newest word first -/
def schedRev : Nat → List UInt32 → List UInt32
  | 0, l => l
  | n+1, l => schedRev n (rotl (l.getD 2 0 ^^^ l.getD 7 0 ^^^ l.getD 13 0 ^^^ l.getD 15 0) 1 :: l)

def rounds : Nat → List UInt32 → St → St
  | _, [], s => s
  | i, w :: ws, s => rounds (i+1) ws (round i w s)

def compressFast (h : St) (block : Bytes) : St :=
  if (words block).length = 16 then
    let s := rounds 0 (schedRev 64 (words block).reverse).reverse h
    ⟨h.a + s.a, h.b + s.b, h.c + s.c, h.d + s.d, h.e + s.e⟩
  else compress h block

theorem getElem!_reverse_toArray (l : List UInt32) (k : Nat) (hk : k < l.length) :
    l.reverse.toArray[l.length - (k + 1)]! = l.getD k 0 := by
  have h2 : l.length - 1 - (l.length - (k + 1)) = k := by omega
  rw [List.getElem!_toArray, List.getElem!_eq_getElem?_getD, List.getElem?_reverse (by omega), h2,
    List.getD_eq_getElem?_getD]
  rfl

theorem foldl_schedRev (n : Nat) (l : List UInt32) (hl : 16 ≤ l.length) :
    (List.range' l.length n).foldl
        (fun w i => w.push (rotl (w[i-3]! ^^^ w[i-8]! ^^^ w[i-14]! ^^^ w[i-16]!) 1)) l.reverse.toArray =
      (schedRev n l).reverse.toArray := by
  induction n generalizing l with
  | zero => rfl
  | succ n ih =>
    have := ih (rotl (l.getD 2 0 ^^^ l.getD 7 0 ^^^ l.getD 13 0 ^^^ l.getD 15 0) 1 :: l)
      (by rw [List.length_cons]; omega)
    simp only [List.length_cons, List.reverse_cons, ← List.push_toArray] at this
    simp only [List.range'_succ, List.foldl_cons, schedRev, ← this,
      getElem!_reverse_toArray l 2 (by omega), getElem!_reverse_toArray l 7 (by omega),
      getElem!_reverse_toArray l 13 (by omega), getElem!_reverse_toArray l 15 (by omega)]

theorem schedule_foldl (w16 : Array UInt32) :
    schedule w16 = (List.range' 16 64).foldl
      (fun w i => w.push (rotl (w[i-3]! ^^^ w[i-8]! ^^^ w[i-14]! ^^^ w[i-16]!) 1)) w16 := by
  simp only [schedule, Std.Legacy.Range.forIn_eq_forIn_range', Std.Legacy.Range.size,
    List.forIn_pure_yield_eq_foldl, bind_pure, Id.run_pure]

theorem foldl_rounds (pre ws : List UInt32) (s : St) :
    (List.range' pre.length ws.length).foldl (fun s i => round i (pre ++ ws).toArray[i]! s) s =
      rounds pre.length ws s := by
  induction ws generalizing pre s with
  | nil => rfl
  | cons w ws ih =>
    have := ih (pre ++ [w]) (round pre.length w s)
    simp only [List.length_append, List.length_cons, List.length_nil, List.append_assoc, List.cons_append,
      List.nil_append] at this
    simp only [List.length_cons, List.range'_succ, List.foldl_cons, rounds, ← this]
    simp

theorem length_schedRev (n : Nat) (l : List UInt32) : (schedRev n l).length = n + l.length := by
  induction n generalizing l with
  | zero => simp [schedRev]
  | succ n ih => rw [schedRev, ih, List.length_cons]; omega

theorem compress_eq : compress = compressFast := by
  funext h block
  unfold compressFast
  split
  · next h16 =>
    have := foldl_schedRev 64 (words block).reverse (by rw [List.length_reverse, h16]; decide)
    rw [List.length_reverse, h16, List.reverse_reverse] at this
    have hr := foldl_rounds [] (schedRev 64 (words block).reverse).reverse h
    rw [List.length_reverse, length_schedRev, List.length_reverse, h16] at hr
    simp only [compress, schedule_foldl, this, List.range_eq_range']
    exact congrArg (fun s : St => (⟨h.a + s.a, h.b + s.b, h.c + s.c, h.d + s.d, h.e + s.e⟩ : St)) hr
  · rfl

def sha1Fast (msg : Bytes) : Bytes :=
  let p := pad msg
  let h := (blocks (p.length / 64 + 1) p).foldl compressFast
    ⟨0x67452301, 0xEFCDAB89, 0x98BADCFE, 0x10325476, 0xC3D2E1F0⟩
  be h.a ++ be h.b ++ be h.c ++ be h.d ++ be h.e

theorem sha1_eq : sha1 = sha1Fast := by
  funext msg
  simp only [sha1, sha1Fast, compress_eq]

end WowSrp.Sha1

namespace WowSrp

def Crypto.fast : Crypto := { Crypto.real with sha1 := Sha1.sha1Fast, hmac := hmacWith Sha1.sha1Fast }

theorem Crypto.real_eq_fast : Crypto.real = Crypto.fast := by
  simp only [Crypto.real, Crypto.fast, Sha1.sha1_eq]

end WowSrp

namespace WowSrp.Spec.Packed

/-- entry `i` of a table packed into one number, eight bits per entry -/
def get (T i : Nat) : Nat := T >>> (8 * i) % 256

def swap (T i j : Nat) : Nat :=
  let d := get T i ^^^ get T j
  T ^^^ d <<< (8 * i) ^^^ d <<< (8 * j)

def unpack (T : Nat) : List Nat := (List.range 256).map (get T)

theorem get_lt (T i : Nat) : get T i < 256 := Nat.mod_lt _ (by decide)

theorem testBit_get (T i b : Nat) : (get T i).testBit b = (decide (b < 8) && T.testBit (8 * i + b)) := by
  rw [get, show 256 = 2 ^ 8 from rfl, Nat.testBit_mod_two_pow, Nat.testBit_shiftRight]

theorem get_xor_shiftLeft (T d i j : Nat) (hd : d < 256) :
    get (T ^^^ d <<< (8 * i)) j = if j = i then get T i ^^^ d else get T j := by
  apply Nat.eq_of_testBit_eq
  intro b
  have hd' : ∀ m, 8 ≤ m → d.testBit m = false := fun m hm =>
    Nat.testBit_lt_two_pow (Nat.lt_of_lt_of_le hd (Nat.pow_le_pow_right (by decide) hm : 2 ^ 8 ≤ 2 ^ m))
  split
  · next h =>
    subst h
    rw [Nat.testBit_xor, testBit_get, testBit_get, Nat.testBit_xor, Nat.testBit_shiftLeft]
    by_cases hb : b < 8
    · simp [hb]
    · simp [hb, hd' b (by omega)]
  · next h =>
    rw [testBit_get, testBit_get, Nat.testBit_xor, Nat.testBit_shiftLeft]
    by_cases hb : b < 8
    · by_cases hge : 8 * j + b ≥ 8 * i
      · simp [hb, hge, hd' (8 * j + b - 8 * i) (by omega)]
      · simp [hb, hge]
    · simp [hb]

theorem get_swap (T i j k : Nat) :
    get (swap T i j) k = if k = j then get T i else if k = i then get T j else get T k := by
  have hd : get T i ^^^ get T j < 256 := Nat.xor_lt_two_pow (n := 8) (get_lt T i) (get_lt T j)
  have h1 (a b : Nat) : a ^^^ (a ^^^ b) = b := by rw [← Nat.xor_assoc, Nat.xor_self, Nat.zero_xor]
  simp only [swap, get_xor_shiftLeft _ _ _ _ hd]
  by_cases hj : k = j
  · subst hj
    by_cases hi : k = i
    · rw [if_pos rfl, if_pos rfl, if_pos hi, Nat.xor_assoc, Nat.xor_self, Nat.xor_zero]
    · rw [if_pos rfl, if_pos rfl, if_neg hi, Nat.xor_comm (get T i), h1]
  · rw [if_neg hj, if_neg hj]
    split
    · exact h1 _ _
    · rfl

theorem length_unpack (T : Nat) : (unpack T).length = 256 := by simp [unpack]

theorem getElem!_unpack (T i : Nat) (hi : i < 256) : (unpack T)[i]! = get T i := by
  simp [unpack, hi]

theorem unpack_swap (T i j : Nat) (hi : i < 256) (hj : j < 256) :
    unpack (swap T i j) = Spec.swap (unpack T) i j := by
  apply List.ext_getElem
  · simp [Spec.swap, length_unpack]
  · intro k _ _
    simp only [Spec.swap, List.getElem_set, getElem!_unpack _ _ hi, getElem!_unpack _ _ hj]
    simp [unpack, get_swap, eq_comm]

/-! the definitions of `Spec/Rc4.lean` again, on the packed table -/

def ksaStep (key : List Nat) (st : Nat × Nat) (i : Nat) : Nat × Nat :=
  let j := (st.2 + get st.1 i + key[i % key.length]!) % 256
  (swap st.1 i j, j)

def identity : Nat := (List.range 256).foldr (fun i T => i + 256 * T) 0

def ksa (key : List Nat) : Nat := ((List.range 256).foldl (ksaStep key) (identity, 0)).1

structure Rc4 where
  T : Nat
  i : Nat
  j : Nat

def Rc4.unpack (st : Rc4) : Spec.Rc4 := ⟨Packed.unpack st.T, st.i, st.j⟩

def Rc4.init (key : List Nat) : Rc4 := ⟨ksa key, 0, 0⟩

def Rc4.prga (st : Rc4) : Rc4 × Nat :=
  let i := (st.i + 1) % 256
  let j := (st.j + get st.T i) % 256
  let T := swap st.T i j
  (⟨T, i, j⟩, get T ((get T i + get T j) % 256))

def Rc4.keystream : Nat → Rc4 → List Nat
  | 0, _ => []
  | n+1, st => st.prga.2 :: Rc4.keystream n st.prga.1

def Rc4.advance : Nat → Rc4 → Rc4
  | 0, st => st
  | n+1, st => Rc4.advance n st.prga.1

theorem foldl_ksaStep (key l : List Nat) (hl : ∀ i ∈ l, i < 256) (st : Nat × Nat) :
    l.foldl (Spec.ksaStep key) (unpack st.1, st.2) =
      (unpack (l.foldl (ksaStep key) st).1, (l.foldl (ksaStep key) st).2) := by
  induction l generalizing st with
  | nil => rfl
  | cons i l ih =>
    have hi := hl i (List.mem_cons_self ..)
    rw [List.foldl_cons, List.foldl_cons, ← ih (fun k hk => hl k (List.mem_cons_of_mem _ hk))]
    simp only [Spec.ksaStep, ksaStep, getElem!_unpack _ _ hi, unpack_swap _ _ _ hi (Nat.mod_lt _ (by decide))]

theorem unpack_identity : unpack identity = List.range 256 := by decide +kernel

theorem Rc4.init_eq (key : List Nat) : Spec.Rc4.init key = (Rc4.init key).unpack := by
  have := foldl_ksaStep key (List.range 256) (fun i hi => List.mem_range.1 hi) (identity, 0)
  simp only [unpack_identity] at this
  simp only [Spec.Rc4.init, Spec.ksa, this, Rc4.init, Rc4.unpack, ksa]

theorem Rc4.prga_eq (st : Rc4) : st.unpack.prga = (st.prga.1.unpack, st.prga.2) := by
  have hi : (st.i + 1) % 256 < 256 := Nat.mod_lt _ (by decide)
  have hj : (st.j + get st.T ((st.i + 1) % 256)) % 256 < 256 := Nat.mod_lt _ (by decide)
  simp only [Spec.Rc4.prga, Rc4.prga, Rc4.unpack, getElem!_unpack _ _ hi, ← unpack_swap _ _ _ hi hj,
    getElem!_unpack _ _ hj, getElem!_unpack _ _ (Nat.mod_lt _ (by decide : 0 < 256))]

theorem Rc4.keystream_eq (n : Nat) (st : Rc4) : Spec.Rc4.keystream n st.unpack = st.keystream n := by
  induction n generalizing st with
  | zero => rfl
  | succ n ih => simp only [Spec.Rc4.keystream, Rc4.keystream, Rc4.prga_eq, ih]

theorem Rc4.advance_eq (n : Nat) (st : Rc4) : Spec.Rc4.advance n st.unpack = (st.advance n).unpack := by
  induction n generalizing st with
  | zero => rfl
  | succ n ih => simp only [Spec.Rc4.advance, Rc4.advance, Rc4.prga_eq, ih]

end WowSrp.Spec.Packed
