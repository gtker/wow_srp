/-
The Wrath server-header plaintext codec, the scenario definitions the statements of C10 use (a scripted
reader holding a byte stream, the two-step client path, sequences of headers), and the round trip of one
header through RC4 and of any sequence. The round trip is the RC4 involution: a client whose generator is
in the server's state turns the ciphertext back into the plaintext and ends in the server's new state,
whether it decrypts the header in one piece or as 4 + 1 bytes (`Rc4.apply_involution`,
`Rc4.roundtrip_split`). Core Lean only.
-/
import WowSrp.Lemmas.Rc4
namespace WowSrp

theorem wrath_codec_constants :
    Gen.wrathLargeThreshold = 0x7FFF ∧ Gen.wrathSetMask = 0x80 ∧ Gen.wrathClearMask = 0x7F ∧
    Gen.wrathTestMask = 0x80 := by decide

theorem largeHeader_small : ∀ n : Fin 128, largeHeader (UInt8.ofNat n.val) = false := by decide

theorem largeHeader_marked : ∀ n : Fin 128,
    largeHeader (UInt8.ofNat n.val ||| 0x80) = true ∧
    (clearLargeHeader (UInt8.ofNat n.val ||| 0x80)).toNat = n.val := by decide

/-- the plaintext, spelled out: what `size.to_be_bytes()[1..]`, `opcode.to_le_bytes()`, the threshold test and the
    mask produce -/
theorem wrathServerHeaderBytes_eq (size opcode : Nat) :
    wrathServerHeaderBytes size opcode =
      if size > 0x7FFF then
        [UInt8.ofNat (size / 65536 % 256) ||| 0x80, UInt8.ofNat (size / 256 % 256),
         UInt8.ofNat (size % 256), UInt8.ofNat (opcode % 256), UInt8.ofNat (opcode / 256 % 256)]
      else
        [UInt8.ofNat (size / 256 % 256), UInt8.ofNat (size % 256),
         UInt8.ofNat (opcode % 256), UInt8.ofNat (opcode / 256 % 256)] := by
  have ht : Gen.wrathLargeThreshold = 0x7FFF := by decide
  have hm : UInt8.ofNat Gen.wrathSetMask = 0x80 := by decide
  simp only [wrathServerHeaderBytes, be32, leN, ht, hm]
  split <;> simp

theorem wrathServerHeaderBytes_length (size opcode : Nat) :
    (wrathServerHeaderBytes size opcode).length = if size ≤ 0x7FFF then 4 else 5 := by
  rw [wrathServerHeaderBytes_eq]
  by_cases h : size > 0x7FFF
  · rw [if_pos h, if_neg (by omega)]; rfl
  · rw [if_neg h, if_pos (by omega)]; rfl

theorem wrath_large_codec (size opcode : Nat) (hbig : size > 0x7FFF) (hs : size ≤ 0x7FFFFF) (ho : opcode < 65536) :
    ∃ b0 b1 b2 b3 b4, wrathServerHeaderBytes size opcode = [b0, b1, b2, b3, b4] ∧ largeHeader b0 = true ∧
      parseLarge [b0, b1, b2, b3, b4] = .ok (size, opcode) := by
  have hm : ∀ n, n % 256 < 256 := fun n => Nat.mod_lt _ (by decide)
  have h1 : size / 65536 % 256 = size / 65536 := Nat.mod_eq_of_lt (by omega)
  have hlt : size / 65536 < 128 := by omega
  obtain ⟨hl, hv⟩ := largeHeader_marked ⟨size / 65536, hlt⟩
  simp only at hl hv
  refine ⟨_, _, _, _, _, by rw [wrathServerHeaderBytes_eq, if_pos hbig], by rw [h1]; exact hl, ?_⟩
  simp only [parseLarge, h1, hv, UInt8.toNat_ofNat_of_lt' (hm _)]
  congr 1
  refine Prod.ext ?_ ?_ <;> simp only <;> omega

theorem wrath_small_codec (size opcode : Nat) (hsmall : size ≤ 0x7FFF) (ho : opcode < 65536) :
    ∃ b0 b1 b2 b3, wrathServerHeaderBytes size opcode = [b0, b1, b2, b3] ∧ largeHeader b0 = false ∧
      parseSmall [b0, b1, b2, b3] = .ok (size, opcode) := by
  have hm : ∀ n, n % 256 < 256 := fun n => Nat.mod_lt _ (by decide)
  have hlt : size / 256 % 256 < 128 := by omega
  have hl := largeHeader_small ⟨size / 256 % 256, hlt⟩
  simp only at hl
  refine ⟨_, _, _, _, by rw [wrathServerHeaderBytes_eq, if_neg (by omega)], hl, ?_⟩
  simp only [parseSmall, UInt8.toNat_ofNat_of_lt' (hm _)]
  congr 1
  refine Prod.ext ?_ ?_ <;> simp only <;> omega

/-- the decoder the client implements across `attempt` / `decryptLarge`: look at the marker of the
    first plaintext byte, then use the 5-byte or the 4-byte layout -/
def wrathDecodePlain (p : Bytes) : Out (Nat × Nat) :=
  match p with
  | b0 :: _ => if largeHeader b0 then parseLarge p else parseSmall p
  | [] => .panic "header array length"

theorem wrathDecodePlain_encode (size opcode : Nat) (hs : size ≤ 0x7FFFFF) (ho : opcode < 65536) :
    wrathDecodePlain (wrathServerHeaderBytes size opcode) = .ok (size, opcode) := by
  by_cases hbig : size > 0x7FFF
  · obtain ⟨b0, b1, b2, b3, b4, he, hl, hp⟩ := wrath_large_codec size opcode hbig hs ho
    rw [he]; simp only [wrathDecodePlain, hl, if_true, hp]
  · obtain ⟨b0, b1, b2, b3, he, hl, hp⟩ := wrath_small_codec size opcode (by omega) ho
    rw [he]; simp only [wrathDecodePlain, hl, Bool.false_eq_true, if_false, hp]

/-- a reader that holds exactly the bytes `bs` (one `read()` hands over as much as fits) followed
    by the events `tail`; no event at all when there are no bytes -/
def dataScript (bs : Bytes) (tail : List REv) : List REv := if bs.isEmpty then tail else .data bs :: tail

/-- the caller-driven path: `attempt_decrypt_server_header` on the first 4 bytes of `bs`, then
    `decrypt_large_server_header` on the 5th byte iff the answer was `AdditionalByteRequired`.
    Returns the new state, the header and the unconsumed bytes. -/
def WClientDec.twoStep (c : WClientDec) (bs : Bytes) : Out (WClientDec × (Nat × Nat) × Bytes) := do
  let (c1, a) ← c.attempt (bs.take 4)
  match a with
  | .header s o => pure (c1, (s, o), bs.drop 4)
  | .additionalByteRequired =>
    match bs.drop 4 with
    | b :: rest => do
      let (c2, r) ← c1.decryptLarge b
      pure (c2, r, rest)
    | [] => .panic "scenario: no fifth byte available"

/-- the server emits one header after the other; output concatenated -/
def serverEmitAll : WServerEnc → List (Nat × Nat) → Out (WServerEnc × Bytes)
  | s, [] => .ok (s, [])
  | s, (size, op) :: hs => do
    let (s1, e) ← s.encryptServerHeader size op
    let (s2, es) ← serverEmitAll s1 hs
    pure (s2, e ++ es)

/-- the client decodes `n` headers through `read_and_decrypt_server_header` (stops at an I/O error) -/
def clientReadAll : Nat → WClientDec → List REv → Out (WClientDec × List (Nat × Nat) × List REv)
  | 0, c, script => .ok (c, [], script)
  | n+1, c, script => do
    let res ← c.readServerHeader script
    match res.result with
    | .error _ => pure (res.state, [], res.rest)
    | .ok h => do
      let (c2, hs, rest) ← clientReadAll n res.state res.rest
      pure (c2, h :: hs, rest)

/-- the client decodes `n` headers through the two-step path -/
def clientTwoStepAll : Nat → WClientDec → Bytes → Out (WClientDec × List (Nat × Nat) × Bytes)
  | 0, c, bs => .ok (c, [], bs)
  | n+1, c, bs => do
    let (c1, h, rest) ← c.twoStep bs
    let (c2, hs, rest') ← clientTwoStepAll n c1 rest
    pure (c2, h :: hs, rest')

theorem dataScript_pos (bs : Bytes) (tail : List REv) (h : 0 < bs.length) : dataScript bs tail = .data bs :: tail := by
  cases bs with
  | nil => cases h
  | cons _ _ => rfl

theorem readExact_dataScript (xs ys acc : Bytes) (tail : List REv) :
    readExact (dataScript (xs ++ ys) tail) xs.length acc = (.ok (acc ++ xs), dataScript ys tail) := by
  induction xs generalizing acc with
  | nil => simp [readExact]
  | cons x xs ih =>
    have := ih (acc ++ [x])
    simp only [dataScript] at this ⊢
    simp only [List.cons_append, List.isEmpty_cons, Bool.false_eq_true, if_false, List.length_cons, readExact]
    rw [this]
    simp

/-- from an intact table the server emits the RC4 encryption of the layout, 4 or 5 bytes, and overwrites its buffer
    from the front (the same call in closed form over `Spec.Rc4`: Lemmas/HeaderSpec) -/
theorem WServerEnc.encryptServerHeader_spec (s : WServerEnc) (hinv : s.rc4.Inv) (size op : Nat) :
    ∃ r' enc, s.rc4.apply (wrathServerHeaderBytes size op) = .ok (r', enc) ∧ r'.Inv ∧
      enc.length = (if size ≤ 0x7FFF then 4 else 5) ∧
      s.encryptServerHeader size op = .ok (⟨r', enc ++ s.serverHeader.drop enc.length⟩, enc) := by
  have h1 := Rc4.apply_eq s.rc4 hinv (wrathServerHeaderBytes size op)
  refine ⟨_, _, h1, Rc4.advance_inv _ _ hinv, ?_, ?_⟩
  · rw [xorBytes_length _ _ (by rw [Rc4.stream_length]), wrathServerHeaderBytes_length]
  · simp only [WServerEnc.encryptServerHeader, h1, bind, Out.bind, pure]

/-- single header, both client paths (the read-based call and the two-step path end in the same state `c'`);
    `more`, `tail`: whatever follows the header on the wire -/
theorem wrath_header_single (s : WServerEnc) (c : WClientDec) (heq : c.rc4 = s.rc4) (hinv : s.rc4.Inv)
    (size op : Nat) (hs : size ≤ 0x7FFFFF) (ho : op < 65536)
    (s' : WServerEnc) (enc : Bytes) (hemit : s.encryptServerHeader size op = .ok (s', enc)) :
    s'.rc4.Inv ∧ enc.length = (if size ≤ 0x7FFF then 4 else 5) ∧
      ∃ c', c'.rc4 = s'.rc4 ∧
        (∀ more tail, c.readServerHeader (dataScript (enc ++ more) tail) =
            .ok ⟨c', .ok (size, op), dataScript more tail⟩) ∧
        (∀ more, c.twoStep (enc ++ more) = .ok (c', (size, op), more)) ∧
        (if size ≤ 0x7FFF then c.attempt (enc.take 4) = .ok (c', .header size op) ∧ enc.drop 4 = []
         else ∃ c1 b, c.attempt (enc.take 4) = .ok (c1, .additionalByteRequired) ∧ enc.drop 4 = [b] ∧
           c1.decryptLarge b = .ok (c', (size, op))) := by
  -- `enc` is RC4 from the state `s.rc4 = c.rc4` on the layout, and leaves the state `r' = s'.rc4`
  obtain ⟨r', enc1, happ, hinv', hlen, hemit1⟩ := WServerEnc.encryptServerHeader_spec s hinv size op
  rw [hemit] at hemit1
  cases hemit1
  refine ⟨hinv', hlen, ?_⟩
  by_cases hsmall : size ≤ 0x7FFF
  · -- short header: RC4 on the four bytes gives back the layout and ends in `r'`; `attempt` parses it
    rw [if_pos hsmall] at hlen
    obtain ⟨b0, b1, b2, b3, hp, hl, hparse⟩ := wrath_small_codec size op hsmall ho
    rw [hp] at happ
    have hdec := Rc4.apply_involution _ _ _ _ happ
    obtain ⟨e0, e1, e2, e3, rfl⟩ : ∃ e0 e1 e2 e3, enc = [e0, e1, e2, e3] := by
      match enc, hlen with
      | [e0, e1, e2, e3], _ => exact ⟨_, _, _, _, rfl⟩
    have hatt : c.attempt [e0, e1, e2, e3] = .ok ({ c with rc4 := r' }, .header size op) := by
      simp only [WClientDec.attempt, heq, hdec, bind, Out.bind, hl, Bool.false_eq_true, if_false, hparse, pure]
    refine ⟨{ c with rc4 := r' }, rfl, ?_, ?_, ?_⟩
    · intro more tail
      have hr := readExact_dataScript [e0, e1, e2, e3] more [] tail
      simp only [List.length_cons, List.length_nil, List.nil_append] at hr
      simp only [WClientDec.readServerHeader, hr, hatt, bind, Out.bind, pure]
    · intro more
      simp only [WClientDec.twoStep, List.cons_append, List.nil_append, List.take_succ_cons, List.take_zero,
        hatt, bind, Out.bind, pure, List.drop_succ_cons, List.drop_zero]
    · rw [if_pos hsmall]
      exact ⟨hatt, rfl⟩
  · -- long header: RC4 on the first four bytes gives back the first four of the layout (`attempt` sees the marker and
    -- saves them), RC4 from there on the fifth byte gives the fifth and ends in `r'` (`decryptLarge` parses all five)
    rw [if_neg hsmall] at hlen
    obtain ⟨b0, b1, b2, b3, b4, hp, hl, hparse⟩ := wrath_large_codec size op (by omega) hs ho
    rw [hp] at happ
    obtain ⟨r1, hd1, hd2⟩ := Rc4.roundtrip_split s.rc4 r' [b0, b1, b2, b3] [b4] enc happ
    obtain ⟨e0, e1, e2, e3, e4, rfl⟩ : ∃ e0 e1 e2 e3 e4, enc = [e0, e1, e2, e3, e4] := by
      match enc, hlen with
      | [e0, e1, e2, e3, e4], _ => exact ⟨_, _, _, _, _, rfl⟩
    simp only [List.length_cons, List.length_nil, List.take_succ_cons, List.take_zero,
      List.drop_succ_cons, List.drop_zero] at hd1 hd2
    have hatt : c.attempt [e0, e1, e2, e3] = .ok (⟨r1, [b0, b1, b2, b3]⟩, .additionalByteRequired) := by
      simp only [WClientDec.attempt, heq, hd1, bind, Out.bind, hl, if_true, pure]
    have hlarge : (⟨r1, [b0, b1, b2, b3]⟩ : WClientDec).decryptLarge e4 =
        .ok (⟨r', [b0, b1, b2, b3]⟩, (size, op)) := by
      simp only [WClientDec.decryptLarge, hd2, bind, Out.bind, List.cons_append, List.nil_append, hparse, pure]
    refine ⟨⟨r', [b0, b1, b2, b3]⟩, rfl, ?_, ?_, ?_⟩
    · intro more tail
      have hr := readExact_dataScript [e0, e1, e2, e3] (e4 :: more) [] tail
      have hr2 := readExact_dataScript [e4] more [] tail
      simp only [List.length_cons, List.length_nil, List.nil_append, List.cons_append] at hr hr2
      simp only [WClientDec.readServerHeader, List.cons_append, List.nil_append, hr, hatt, bind, Out.bind, pure,
        hr2, List.headD_cons, hlarge]
    · intro more
      simp only [WClientDec.twoStep, List.cons_append, List.nil_append, List.take_succ_cons, List.take_zero,
        hatt, bind, Out.bind, pure, List.drop_succ_cons, List.drop_zero, hlarge]
    · rw [if_neg hsmall]
      exact ⟨_, e4, hatt, rfl, hlarge⟩

theorem wrath_header_sequence (hdrs : List (Nat × Nat)) (hb : ∀ h ∈ hdrs, h.1 ≤ 0x7FFFFF ∧ h.2 < 65536)
    (s : WServerEnc) (c : WClientDec) (heq : c.rc4 = s.rc4) (hinv : s.rc4.Inv) :
    ∃ s' wire, serverEmitAll s hdrs = .ok (s', wire) ∧ s'.rc4.Inv ∧
      wire.length = (hdrs.map (fun h => if h.1 ≤ 0x7FFF then 4 else 5)).sum ∧
      ∃ c', c'.rc4 = s'.rc4 ∧
        (∀ more tail, clientReadAll hdrs.length c (dataScript (wire ++ more) tail) =
            .ok (c', hdrs, dataScript more tail)) ∧
        (∀ more, clientTwoStepAll hdrs.length c (wire ++ more) = .ok (c', hdrs, more)) := by
  induction hdrs generalizing s c with
  | nil => exact ⟨s, [], rfl, hinv, rfl, c, heq, fun _ _ => rfl, fun _ => rfl⟩
  | cons h hs ih =>
    obtain ⟨size, op⟩ := h
    have hb1 := hb (size, op) (by simp)
    obtain ⟨_, enc, _, _, _, hemit⟩ := WServerEnc.encryptServerHeader_spec s hinv size op
    obtain ⟨hinv1, hlen, c1, heq1, hread, htwo, _⟩ :=
      wrath_header_single s c heq hinv size op hb1.1 hb1.2 _ enc hemit
    obtain ⟨s2, wire, hall, hinv2, hlen2, c2, heq2, hreads, htwos⟩ :=
      ih (fun h hh => hb h (by simp [hh])) _ c1 heq1 hinv1
    refine ⟨s2, enc ++ wire, ?_, hinv2, ?_, c2, heq2, ?_, ?_⟩
    · simp only [serverEmitAll, hemit, hall, bind, Out.bind, pure]
    · simp only [List.length_append, hlen, hlen2, List.map_cons, List.sum_cons]
    · intro more tail
      simp only [clientReadAll, List.length_cons, List.append_assoc, hread, hreads, bind, Out.bind, pure]
    · intro more
      simp only [clientTwoStepAll, List.length_cons, List.append_assoc, htwo, htwos, bind, Out.bind, pure]

end WowSrp
