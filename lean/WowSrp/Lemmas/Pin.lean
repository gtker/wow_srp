/-
PIN hashes (`src/pin.rs`, C16): `pin_to_bytes` gives the Spec's decimal digits (`pinToBytes_eq`), and the
keypad loop is `Spec.lehmer` (`remapPinGrid_spec`): a permutation of 0..9 that depends on the seed modulo
10!. Core Lean only.
-/
import WowSrp.Lemmas.Select
namespace WowSrp

theorem Spec.digitsRev_zero : Spec.digitsRev 0 = [] := by
  rw [Spec.digitsRev]; simp

theorem Spec.digitsRev_pos (n : Nat) (h : n ≠ 0) :
    Spec.digitsRev n = n % 10 :: Spec.digitsRev (n / 10) := by
  rw [Spec.digitsRev]; simp [h]

theorem Spec.digitsRev_lt (n : Nat) : ∀ d ∈ Spec.digitsRev n, d < 10 := by
  induction n using Spec.digitsRev.induct with
  | case1 => simp [Spec.digitsRev_zero]
  | case2 n h ih =>
    rw [Spec.digitsRev_pos n h]
    intro d hd
    obtain _ | ⟨_, hd⟩ := hd
    · omega
    · exact ih d hd

theorem Spec.digits_lt (n : Nat) : ∀ d ∈ Spec.digits n, d < 10 :=
  fun d hd => Spec.digitsRev_lt n d (List.mem_reverse.mp hd)

theorem Spec.digitsRev_value (n : Nat) :
    (Spec.digitsRev n).foldr (fun d a => 10 * a + d) 0 = n := by
  induction n using Spec.digitsRev.induct with
  | case1 => simp [Spec.digitsRev_zero]
  | case2 n h ih => rw [Spec.digitsRev_pos n h, List.foldr_cons, ih]; omega

theorem Spec.digits_value (n : Nat) : Spec.ofDigits (Spec.digits n) = n := by
  rw [Spec.ofDigits, Spec.digits, List.foldl_reverse]
  exact Spec.digitsRev_value n

theorem Spec.digitsRev_getLast_ne_zero (n : Nat) : ∀ d, (Spec.digitsRev n).getLast? = some d → d ≠ 0 := by
  induction n using Spec.digitsRev.induct with
  | case1 => simp [Spec.digitsRev_zero]
  | case2 n h ih =>
    intro d hd
    rw [Spec.digitsRev_pos n h] at hd
    by_cases h10 : n / 10 = 0
    · rw [h10, Spec.digitsRev_zero, List.getLast?_singleton, Option.some.injEq] at hd
      omega
    · rw [Spec.digitsRev_pos _ h10, List.getLast?_cons_cons, ← Spec.digitsRev_pos _ h10] at hd
      exact ih d hd

theorem Spec.digits_head_ne_zero (n : Nat) : ∀ d, (Spec.digits n).head? = some d → d ≠ 0 := by
  intro d hd
  exact Spec.digitsRev_getLast_ne_zero n d (by rwa [Spec.digits, List.head?_reverse] at hd)

theorem Spec.digitsRev_length_le_iff (n k : Nat) : (Spec.digitsRev n).length ≤ k ↔ n < 10 ^ k := by
  induction n using Spec.digitsRev.induct generalizing k with
  | case1 => simp [Spec.digitsRev_zero, Nat.pow_pos]
  | case2 n h ih =>
    rw [Spec.digitsRev_pos n h]
    cases k with
    | zero => simp; omega
    | succ k => rw [List.length_cons, Nat.add_le_add_iff_right, ih, Nat.pow_succ]; omega

theorem Spec.digits_length_le_iff (n k : Nat) : (Spec.digits n).length ≤ k ↔ n < 10 ^ k := by
  rw [Spec.digits, List.length_reverse, Spec.digitsRev_length_le_iff]

/-- the fuelled loop of the model produces the digits whenever the fuel suffices -/
theorem pinDigitsRev_eq (fuel pin : Nat) (h : pin < 10 ^ fuel) :
    pinDigitsRev fuel pin = (Spec.digitsRev pin).map UInt8.ofNat := by
  induction pin using Spec.digitsRev.induct generalizing fuel with
  | case1 => cases fuel <;> simp [pinDigitsRev, Spec.digitsRev_zero]
  | case2 pin h0 ih =>
    obtain _ | fuel := fuel
    · omega
    · rw [Spec.digitsRev_pos pin h0, pinDigitsRev, if_neg h0, List.map_cons,
        ih fuel (by rw [Nat.pow_succ] at h; omega)]

/-- `pin_to_bytes` for a `u32`: the decimal digits, most significant first; no panic -/
theorem pinToBytes_eq (pin : Nat) (h : pin < 2 ^ 32) :
    pinToBytes pin = .ok ((Spec.digits pin).map UInt8.ofNat) := by
  have h64 : pin < 10 ^ 64 := Nat.lt_of_lt_of_le h (by decide)
  have h10 : pin < 10 ^ 10 := Nat.lt_of_lt_of_le h (by decide)
  have hmax : Gen.maxPinLength = 10 := rfl
  rw [pinToBytes]
  simp only [pinDigitsRev_eq 64 pin h64, List.length_map, hmax]
  rw [if_pos ((Spec.digitsRev_length_le_iff pin 10).mpr h10), Spec.digits, List.map_reverse]

theorem findIdx_of_mem {grid : Bytes} {b : UInt8} (h : b ∈ grid) :
    findIdx grid b = .ok (UInt8.ofNat (grid.idxOf b)) := by
  rw [findIdx, List.findIdx?_eq_some_of_exists (p := (· == b)) ⟨b, h, beq_self_eq_true b⟩]; rfl

theorem idxOf_map_ofNat (L : List Nat) (d : Nat) (hL : ∀ a ∈ L, a < 256) (hd : d < 256) :
    (L.map UInt8.ofNat).idxOf (UInt8.ofNat d) = L.idxOf d := by
  induction L with
  | nil => rfl
  | cons a L ih =>
    have e : (UInt8.ofNat a == UInt8.ofNat d) = (a == d) :=
      Bool.eq_iff_iff.mpr (by simpa using ofNat_inj_of_lt (hL a (.head _)) hd)
    rw [List.map_cons, List.idxOf_cons, List.idxOf_cons, e, ih fun a ha => hL a (.tail _ ha)]

theorem findIdx_map_ofNat (L : List Nat) (d : Nat) (hL : ∀ a ∈ L, a < 256) (hm : d ∈ L) :
    findIdx (L.map UInt8.ofNat) (UInt8.ofNat d) = .ok (UInt8.ofNat (L.idxOf d)) := by
  rw [findIdx_of_mem (List.mem_map_of_mem hm), idxOf_map_ofNat L d hL (hL d hm)]

theorem mapOut_map_ok {α β γ} (f : β → Out γ) (h : α → β) (g : α → γ) (l : List α)
    (hl : ∀ x ∈ l, f (h x) = .ok (g x)) : mapOut f (l.map h) = .ok (l.map g) := by
  induction l with
  | nil => rfl
  | cons x xs ih =>
    simp only [List.map_cons, mapOut, hl x (.head _), Out.bind_ok, ih fun y hy => hl y (.tail _ hy),
      Out.pure_eq]

theorem mapOut_ok {α β} (f : α → Out β) (g : α → β) (l : List α) (h : ∀ x ∈ l, f x = .ok (g x)) :
    mapOut f l = .ok (l.map g) := by
  simpa using mapOut_map_ok f id g l h

theorem remapPinGrid_spec (seed : Nat) :
    remapPinGrid seed = .ok ((Spec.lehmer seed).map UInt8.ofNat) := by
  -- `++ []`: `remapLoop_spec` speaks of `live ++ dead`, and no cell is dead yet
  have hg : Gen.pinInitialGrid = (List.range 10).map UInt8.ofNat ++ [] := by decide
  rw [remapPinGrid, hg, remapLoop_spec Gen.maxPinLength _ [] rfl, Spec.pick_map]
  rfl

theorem Spec.lehmer_perm (seed : Nat) : (Spec.lehmer seed).Perm (List.range 10) :=
  Spec.pick_perm 10 _ seed (by simp)

/-- 3628800 is `fact 10`, by evaluation -/
theorem Spec.lehmer_mod (seed : Nat) : Spec.lehmer seed = Spec.lehmer (seed % 3628800) :=
  Spec.pick_mod_fact 10 _ seed (by simp)

theorem Spec.mem_lehmer (seed d : Nat) : d ∈ Spec.lehmer seed ↔ d < 10 := by
  rw [(Spec.lehmer_perm seed).mem_iff]; simp

end WowSrp
