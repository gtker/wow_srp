/-
For the "changed field ⇒ explicit collision pair" theorems (C02, C05, C06, C17): a concatenation of
fields of known widths determines its fields, and a single-bit flip changes a byte list (`flipBit`, the
changes those theorems quantify over). Core Lean only; of a hash function only its output length is
used (`flipBit_sha1_ne`).
-/
import WowSrp.Lemmas.LE
import WowSrp.Model.Crypto
namespace WowSrp.Layout

/-! ### concatenations of fixed-width fields

The hash inputs are written left-nested, `f₁ ++ f₂ ++ … ++ fₙ`. With the widths of the leading fields
known, re-associate and cut from the left with `List.append_inj` (`layout6_inj`); with the widths of the
trailing fields known, cut from the right with `List.append_inj'` without re-associating; a change of a
single field needs no widths at all (`List.append_cancel_left` / `_right`). -/

theorem append2_inj {a a' b b' : Bytes} (ha : a.length = a'.length)
    (h : a ++ b = a' ++ b') : a = a' ∧ b = b' := List.append_inj h ha

/-- the input of the client proof M1: the last field, the session key, needs no width -/
theorem layout6_inj {f1 f1' f2 f2' f3 f3' f4 f4' f5 f5' f6 f6' : Bytes}
    (h1 : f1.length = f1'.length) (h2 : f2.length = f2'.length) (h3 : f3.length = f3'.length)
    (h4 : f4.length = f4'.length) (h5 : f5.length = f5'.length)
    (h : f1 ++ f2 ++ f3 ++ f4 ++ f5 ++ f6 = f1' ++ f2' ++ f3' ++ f4' ++ f5' ++ f6') :
    f1 = f1' ∧ f2 = f2' ∧ f3 = f3' ∧ f4 = f4' ∧ f5 = f5' ∧ f6 = f6' := by
  simp only [List.append_assoc] at h
  obtain ⟨e1, hr⟩ := List.append_inj h h1
  obtain ⟨e2, hr⟩ := List.append_inj hr h2
  obtain ⟨e3, hr⟩ := List.append_inj hr h3
  obtain ⟨e4, hr⟩ := List.append_inj hr h4
  obtain ⟨e5, e6⟩ := List.append_inj hr h5
  exact ⟨e1, e2, e3, e4, e5, e6⟩

def bitMask (k : Nat) : UInt8 := UInt8.ofNat (2 ^ (k % 8))

/-- flip bit `i` (bit `i mod 8` of byte `i / 8`) of a byte list; positions past the end change nothing -/
def flipBit (bs : Bytes) (i : Nat) : Bytes := bs.modify (i / 8) (· ^^^ bitMask i)

theorem bitMask_ne_zero (k : Nat) : bitMask k ≠ 0 := by
  have h : ∀ j : Fin 8, UInt8.ofNat (2 ^ j.val) ≠ 0 := by decide
  exact h ⟨k % 8, Nat.mod_lt _ (by decide)⟩

theorem xor_mask_ne (b m : UInt8) (hm : m ≠ 0) : b ^^^ m ≠ b := by
  intro h
  apply hm
  have : b ^^^ (b ^^^ m) = b ^^^ b := by rw [h]
  rwa [← UInt8.xor_assoc, UInt8.xor_self, UInt8.zero_xor] at this

@[simp] theorem flipBit_length (bs : Bytes) (i : Nat) : (flipBit bs i).length = bs.length := by
  simp [flipBit]

theorem flipBit_ne (bs : Bytes) (i : Nat) (hi : i < 8 * bs.length) : flipBit bs i ≠ bs := by
  have hlt : i / 8 < bs.length := by omega
  intro h
  have h2 : (flipBit bs i)[i / 8]? = bs[i / 8]? := by rw [h]
  simp only [flipBit, List.getElem?_modify_eq, List.getElem?_eq_getElem hlt, Option.map_eq_map,
    Option.map_some, Option.some.injEq] at h2
  exact xor_mask_ne _ _ (bitMask_ne_zero i) h2

/-- the 160 single-bit changes of a SHA-1 output (every `*_flipped_*_refused` theorem) -/
theorem flipBit_sha1_ne {C : Crypto} (hC : C.WF) (m : Bytes) {i : Nat} (hi : i < 160) :
    flipBit (C.sha1 m) i ≠ C.sha1 m :=
  flipBit_ne _ i (by rw [hC.sha1_len]; exact hi)

theorem flipBit_flipBit (bs : Bytes) (i : Nat) : flipBit (flipBit bs i) i = bs := by
  simp only [flipBit, List.modify_modify_eq]
  have : ((fun x : UInt8 => x ^^^ bitMask i) ∘ fun x => x ^^^ bitMask i) = id := by
    funext x; simp [UInt8.xor_assoc]
  rw [this]
  exact List.modify_id _ _

end WowSrp.Layout
