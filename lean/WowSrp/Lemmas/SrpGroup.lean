/-
What the built-in group adds to `Lemmas/Srp.lean`: client and server compute the same secret
(`srp_agree`), and `7^a mod N` is never 0 because N is prime.
-/
import WowSrp.Lemmas.Srp
import WowSrp.Lemmas.Pratt
import WowSrp.Lemmas.SrpAlgebra
namespace WowSrp

/-- **client and server secrets are the same number** (built-in group, every x, a, b, u): the Spec-level
    form of `srp_agree`; the client's base `B − 3·v` may be negative -/
theorem Spec.S_agree (x a b u : Nat) :
    Spec.Sclient (Spec.B (Spec.v 7 x Spec.N) b) x a u 7 Spec.N
      = Spec.Sserver (Spec.A 7 a Spec.N) (Spec.v 7 x Spec.N) u b := by
  have h := srp_agree Spec.N 7 3 x a b u
  simp only [Nat.cast_ofNat] at h
  -- `Spec.Sclient` is `toNat` of the left side of `h`; the right side of `h` is the cast of `Spec.Sserver`
  rw [Spec.Sclient, Spec.B, Spec.v, h, Spec.Sserver, Spec.A]
  norm_cast

/-- A = 7^a mod N is never 0: N is prime and does not divide 7 -/
theorem Spec.A_builtin_ne_zero (a : Nat) : Spec.A 7 a Spec.N ≠ 0 := by
  unfold Spec.A; rw [specN_eq]
  exact pow_mod_prime_ne_zero nBig 7 a nBig_prime gBig_not_dvd

theorem Spec.A_builtin_lt (a : Nat) : Spec.A 7 a Spec.N < nBig := by
  unfold Spec.A; rw [specN_eq]; exact Nat.mod_lt _ nBig_pos

/-- the verifier v = 7^x mod N is never 0 either -/
theorem Spec.v_builtin_ne_zero (x : Nat) : Spec.v 7 x Spec.N ≠ 0 := Spec.A_builtin_ne_zero x

theorem Spec.v_builtin_lt (x : Nat) : Spec.v 7 x Spec.N < nBig := Spec.A_builtin_lt x

/-- `SrpClientChallenge::new` against the built-in group (what an honest server announces) -/
theorem SrpClientChallenge.new_builtin (C : Crypto) (hC : C.WF) (be : Backend) (u p : NStr)
    (B salt a : Bytes) (hB : B.length = 32) :
    let A := Spec.A 7 (ofLE a) Spec.N
    let K := Spec.K C (Spec.Sclient (ofLE B) (Spec.x C u.asRef p.asRef salt) (ofLE a)
      (Spec.u C A (ofLE B)) 7 Spec.N)
    SrpClientChallenge.new C be u p gBig Gen.largeSafePrimeLE B salt a =
      .ok ⟨u, Spec.M1 C Gen.largeSafePrimeLE 7 u.asRef salt (leN 32 A) B K, leN 32 A, K⟩ := by
  have hN : ofLE Gen.largeSafePrimeLE = Spec.N := specN_eq.symm
  have h := SrpClientChallenge.new_spec C hC be u p gBig Gen.largeSafePrimeLE B salt a
    (by rw [hN]; exact specN_pos) largeSafePrimeLE_length hB
    (by rw [hN, gBig_val]; exact Spec.A_builtin_ne_zero _)
  rw [hN, gBig_val] at h
  exact h

end WowSrp
