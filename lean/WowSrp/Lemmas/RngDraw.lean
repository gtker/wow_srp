/-
Random draws (Model/Rng.lean, `ProofSeed.ofDraw`): a generator takes the first `n` bytes of the RNG
stream and returns an injective function of them. Core Lean only.
-/
import WowSrp.Model.Rng
import WowSrp.Model.World
import WowSrp.Lemmas.LE
namespace WowSrp

theorem ProofSeed.ofDraw_lt (d : Bytes) : ProofSeed.ofDraw d < 2 ^ 32 :=
  ofLE_lt_of_length_le (w := 4) (List.length_take_le 4 d)

theorem ProofSeed.leN_ofDraw {d : Bytes} (hd : d.length = 4) : leN 4 (ProofSeed.ofDraw d) = d := by
  rw [ProofSeed.ofDraw, List.take_of_length_le (Nat.le_of_eq hd)]
  exact hd ▸ leN_ofLE d

/-- `gen` **draws exactly `n` bytes and returns `val` of them**, clause by clause:
    1. it succeeds iff the stream still has at least `n` bytes,
    2. and fails iff it has fewer;
    3. it returns `(v, rest)` iff `v = val (first n bytes)` and `rest` is the stream without its
       first `n` bytes — so exactly `n` bytes are consumed, from the front;
    4. `val` is injective on `n`-byte inputs: no drawn byte is dropped or masked;
    5. hence two successful calls give the same value iff the first `n` bytes of their streams agree
       (in particular: streams whose first `n` bytes differ give different values, and nothing past
       the first `n` bytes influences the value).
    Clauses 3 and 4 imply the others (`DrawsExactly.of_eq`); all five are spelled out because they are
    what C15 claims of a generator. -/
def DrawsExactly {α : Type} (gen : Bytes → Option (α × Bytes)) (n : Nat) (val : Bytes → α) : Prop :=
  (∀ rng, (gen rng).isSome ↔ n ≤ rng.length) ∧
  (∀ rng, gen rng = none ↔ rng.length < n) ∧
  (∀ rng v rest, gen rng = some (v, rest) ↔
    n ≤ rng.length ∧ v = val (rng.take n) ∧ rest = rng.drop n) ∧
  (∀ d d' : Bytes, d.length = n → d'.length = n → val d = val d' → d = d') ∧
  (∀ rng rng' v rest v' rest', gen rng = some (v, rest) → gen rng' = some (v', rest') →
    (v = v' ↔ rng.take n = rng'.take n))

/-- clauses 3 and 5 by name -/
theorem DrawsExactly.eq_some_iff {α : Type} {gen : Bytes → Option (α × Bytes)} {n : Nat} {val : Bytes → α}
    (h : DrawsExactly gen n val) {rng : Bytes} {v : α} {rest : Bytes} :
    gen rng = some (v, rest) ↔ n ≤ rng.length ∧ v = val (rng.take n) ∧ rest = rng.drop n :=
  h.2.2.1 rng v rest

theorem DrawsExactly.val_eq_iff {α : Type} {gen : Bytes → Option (α × Bytes)} {n : Nat} {val : Bytes → α}
    (h : DrawsExactly gen n val) {rng rng' : Bytes} {v v' : α} {rest rest' : Bytes}
    (hv : gen rng = some (v, rest)) (hv' : gen rng' = some (v', rest')) :
    v = v' ↔ rng.take n = rng'.take n :=
  h.2.2.2.2 rng rng' v rest v' rest' hv hv'

theorem drawBytes_map_eq {α : Type} (n : Nat) (val : Bytes → α) (rng : Bytes) :
    ((drawBytes n rng).map fun (d, r) => (val d, r)) =
      if rng.length < n then none else some (val (rng.take n), rng.drop n) := by
  unfold drawBytes
  split <;> rfl

/-- every generator of the model has this closed form (`drawBytes` by definition, the others by
    `drawBytes_map_eq`); the clauses of `DrawsExactly` are read off it: 2 and 5 from 3, 1 from 2 -/
theorem DrawsExactly.of_eq {α : Type} {gen : Bytes → Option (α × Bytes)} {n : Nat} {val : Bytes → α}
    (hgen : ∀ rng, gen rng = if rng.length < n then none else some (val (rng.take n), rng.drop n))
    (hinj : ∀ d d' : Bytes, d.length = n → d'.length = n → val d = val d' → d = d') :
    DrawsExactly gen n val := by
  have h2 : ∀ rng, gen rng = none ↔ rng.length < n := by
    intro rng; rw [hgen]; split
    · exact ⟨fun _ => ‹_›, fun _ => rfl⟩
    · exact ⟨(nomatch ·), fun h => absurd h ‹_›⟩
  have h3 : ∀ rng v rest, gen rng = some (v, rest) ↔
      n ≤ rng.length ∧ v = val (rng.take n) ∧ rest = rng.drop n := by
    intro rng v rest; rw [hgen]; split
    · exact ⟨(nomatch ·), fun h => absurd h.1 (Nat.not_le.2 ‹_›)⟩
    · rw [Option.some.injEq, Prod.mk.injEq, eq_comm (a := v), eq_comm (a := rest)]
      exact ⟨fun h => ⟨Nat.le_of_not_lt ‹_›, h⟩, (·.2)⟩
  refine ⟨fun rng => ?_, h2, h3, hinj, fun rng rng' v rest v' rest' h h' => ?_⟩
  · rw [← Nat.not_lt, ← h2, Option.isSome_iff_ne_none]
  · obtain ⟨hl, rfl, _⟩ := (h3 ..).1 h
    obtain ⟨hl', rfl, _⟩ := (h3 ..).1 h'
    exact ⟨hinj _ _ (List.length_take_of_le hl) (List.length_take_of_le hl'), congrArg val⟩

end WowSrp
