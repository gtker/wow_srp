/-
Matrix cards (`src/matrix_card.rs`, C18): cell lookup and printing order are the same slice of `data`;
`generate_coordinates` in closed form (the Spec's selection without replacement, and exactly when it
panics); the verifier's calls as equations, and the whole exchange in one statement (`verify_session`),
from which the C18 accept / reject theorems are read off. Core Lean only.
-/
import WowSrp.Lemmas.Select
import WowSrp.Lemmas.Rc4
namespace WowSrp

/-- what `from_data` / `new` guarantee about a card, plus the size limits of the property:
    `digit_count * height * width` digits, between 1 and 255 cells, at least one digit per cell -/
structure MatrixCard.WF (c : MatrixCard) : Prop where
  len : c.data.length = c.digitCount * c.height * c.width
  pos : 1 ≤ c.width * c.height
  small : c.width * c.height ≤ 255
  digits : 1 ≤ c.digitCount

/-- cell number `i` in printing order -/
def MatrixCard.cell (c : MatrixCard) (i : Nat) : Bytes :=
  (c.data.drop (i * c.digitCount)).take c.digitCount

theorem cellIndex_lt (w h x y : Nat) (hx : x < w) (hy : y < h) : y * w + x < w * h := by
  have h1 : (y + 1) * w ≤ h * w := Nat.mul_le_mul_right w hy
  rw [Nat.add_mul, Nat.one_mul, Nat.mul_comm h w] at h1
  omega

theorem cellIndex_inj (w x y x' y' : Nat) (hx : x < w) (hx' : x' < w)
    (h : y * w + x = y' * w + x') : x = x' ∧ y = y' := by
  have e : x = x' := by
    have := congrArg (· % w) h
    simpa [Nat.mul_add_mod_self_right, Nat.mod_eq_of_lt hx, Nat.mod_eq_of_lt hx'] using this
  subst e
  exact ⟨rfl, Nat.eq_of_mul_eq_mul_right (by omega) (Nat.add_right_cancel h)⟩

/-- `WF.len` with the factors in the order the cell arithmetic wants: (number of cells) * (digits per cell) -/
theorem MatrixCard.WF.length_data {c : MatrixCard} (hc : c.WF) :
    c.data.length = c.width * c.height * c.digitCount := by
  rw [hc.len, Nat.mul_assoc, Nat.mul_comm c.height, Nat.mul_comm c.digitCount]

theorem MatrixCard.WF.cell_end_le {c : MatrixCard} (hc : c.WF) {i : Nat} (hi : i < c.width * c.height) :
    i * c.digitCount + c.digitCount ≤ c.data.length := by
  rw [hc.length_data, ← Nat.succ_mul]
  exact Nat.mul_le_mul_right _ hi

theorem MatrixCard.getNumberAt_eq (c : MatrixCard) (hc : c.WF) (x y : Nat)
    (hx : x < c.width) (hy : y < c.height) :
    c.getNumberAt x y = .ok (c.cell (y * c.width + x)) :=
  if_pos (hc.cell_end_le (cellIndex_lt _ _ _ _ hx hy))

theorem chunksOf_getElem? (n : Nat) (hn : 1 ≤ n) (fuel : Nat) (l : Bytes) (hf : l.length < fuel) (i : Nat) :
    (chunksOf n fuel l)[i]? = if i * n < l.length then some ((l.drop (i * n)).take n) else none := by
  induction fuel generalizing l i with
  | zero => omega
  | succ fuel ih =>
    unfold chunksOf
    cases l with
    | nil => simp
    | cons a l =>
      simp only [List.isEmpty_cons, Bool.false_eq_true, if_false]
      cases i with
      | zero => simp
      | succ i =>
        rw [List.getElem?_cons_succ, ih _ (by simp only [List.length_drop, List.length_cons] at hf ⊢; omega)]
        simp only [List.length_drop, List.drop_drop]
        have e : (i + 1) * n = n + i * n := by rw [Nat.add_mul, Nat.one_mul, Nat.add_comm]
        rw [e]
        by_cases h : i * n < (a :: l).length - n
        · rw [if_pos h, if_pos (by omega)]
        · rw [if_neg h, if_neg (by omega)]

/-- `to_printer()` yields the cells in order, and nothing outside the card -/
theorem MatrixCard.printed_eq (c : MatrixCard) (hc : c.WF) (i : Nat) :
    c.printed i = .ok (if i < c.width * c.height then some (c.cell i) else none) := by
  have hd := hc.digits
  rw [MatrixCard.printed, if_neg (by omega), chunksOf_getElem? _ hd _ _ (by omega), hc.length_data]
  simp only [Nat.mul_lt_mul_right hd]
  rfl

theorem MatrixCard.cell_getElem? (c : MatrixCard) (i k : Nat) :
    (c.cell i)[k]? = if k < c.digitCount then c.data[i * c.digitCount + k]? else none := by
  rw [MatrixCard.cell, List.getElem?_take, List.getElem?_drop]

theorem MatrixCard.cell_length (c : MatrixCard) (hc : c.WF) (i : Nat) (hi : i < c.width * c.height) :
    (c.cell i).length = c.digitCount := by
  have := hc.cell_end_le hi
  rw [MatrixCard.cell, List.length_take, List.length_drop]
  omega

theorem rangeBytes_nodup (n : Nat) (hn : n ≤ 256) : ((List.range n).map UInt8.ofNat).Nodup := by
  rw [List.Nodup, List.pairwise_map]
  refine List.nodup_range.imp_of_mem fun ha hb hab h => hab ?_
  rw [List.mem_range] at ha hb
  exact (ofNat_inj_of_lt (by omega) (by omega)).mp h

/-- `generate_coordinates` in closed form: the Spec's selection without replacement from the cell
    numbers `0 .. w*h-1`, and exactly when it panics -/
theorem generateCoordinates_eq (w h count seed : Nat) :
    generateCoordinates w h count seed =
      if w * h > 255 then .panic "matrix_card.rs:349 multiplication overflow"
      else if count ≤ w * h then .ok ((Spec.pick count (List.range (w * h)) seed).map UInt8.ofNat)
      else .panic "matrix_card.rs:358 remainder by zero" := by
  have := mcCoordLoop_eq (w * h) count 0 ((List.range (w * h)).map UInt8.ofNat) [] (by simp) seed []
  rw [List.append_nil, List.length_map, List.length_range, List.nil_append, Spec.pick_map] at this
  rw [generateCoordinates, this]

/-- the value `generate_coordinates` returns (`generateCoordinates_eq`): `count` pairwise distinct cell numbers on the card -/
theorem coords_facts (w h count seed : Nat) (hs : w * h ≤ 255) (hc : count ≤ w * h) :
    let coords := (Spec.pick count (List.range (w * h)) seed).map UInt8.ofNat
    coords.length = count ∧ coords.Nodup ∧ ∀ c ∈ coords, c.toNat < w * h := by
  intro coords
  have e : coords = Spec.pick count ((List.range (w * h)).map UInt8.ofNat) seed :=
    (Spec.pick_map ..).symm
  refine ⟨?_, ?_, ?_⟩
  · rw [List.length_map, Spec.pick_length _ _ _ (by simpa using hc)]
  · rw [e]; exact Spec.pick_nodup _ _ _ (rangeBytes_nodup _ (by omega))
  · intro c hc'
    obtain ⟨a, ha, rfl⟩ := List.mem_map.mp (Spec.pick_subset _ _ _ c (e ▸ hc'))
    rw [List.mem_range] at ha
    rwa [UInt8.toNat_ofNat_of_lt' (show a < 256 by omega)]

/-- (the bound `hr'` travels inside the statement, for `coordinates[r]`: the shape `C18_coords_on_card` has) -/
theorem MCVerifier.getCoordinates_lt (v : MCVerifier) (r : Nat) (hr : r < v.challengeCount)
    (hl : v.coordinates.length = v.challengeCount)
    (hb : ∀ c ∈ v.coordinates, c.toNat < v.width * v.height) :
    ∃ x y, v.getCoordinates r = .ok (some (x, y)) ∧ x < v.width ∧ y < v.height ∧
      ∃ hr' : r < v.coordinates.length, y * v.width + x = v.coordinates[r].toNat := by
  have hr' : r < v.coordinates.length := by omega
  have hlt := hb _ (List.getElem_mem hr')
  have hw : ¬ v.width = 0 := by
    intro h0; rw [h0] at hlt; simp at hlt
  have hy : v.coordinates[r].toNat / v.width < v.height := Nat.div_lt_of_lt_mul hlt
  refine ⟨v.coordinates[r].toNat % v.width, v.coordinates[r].toNat / v.width, ?_,
    Nat.mod_lt _ (by omega), hy, hr', ?_⟩
  · unfold MCVerifier.getCoordinates
    rw [if_neg (by omega)]
    simp only [List.getElem?_eq_getElem hr', if_neg hw]
    rw [if_neg (by omega)]
  · rw [Nat.mul_comm]; exact Nat.div_add_mod _ _

theorem MCVerifier.getCoordinates_ge (v : MCVerifier) (r : Nat) (hr : r ≥ v.challengeCount) :
    v.getCoordinates r = .ok none := by
  unfold MCVerifier.getCoordinates
  rw [if_pos hr]

theorem MCVerifier.getCoordinates_ok (v : MCVerifier) (hl : v.coordinates.length = v.challengeCount)
    (hb : ∀ c ∈ v.coordinates, c.toNat < v.width * v.height) (r : Nat) :
    ∃ res, v.getCoordinates r = .ok res := by
  by_cases hr : r < v.challengeCount
  · obtain ⟨x, y, e, _⟩ := v.getCoordinates_lt r hr hl hb
    exact ⟨_, e⟩
  · exact ⟨none, v.getCoordinates_ge r (Nat.le_of_not_lt hr)⟩

/-- `MatrixCardVerifier::new` fails exactly as `generate_coordinates` does -/
theorem MCVerifier.new_eq (C : Crypto) (count h seed w : Nat) (K : Bytes) :
    MCVerifier.new C count h seed w K = (generateCoordinates w h count seed >>= fun coords =>
      .ok ⟨count, h, w, coords, C.md5 (leN 8 seed ++ K), [], Rc4.keyed (C.md5 (leN 8 seed ++ K))⟩) := by
  simp only [MCVerifier.new, Rc4.new_eq, Out.bind_ok, Out.pure_eq]

/-- entering digits = RC4-encrypting them and feeding the ciphertext to the HMAC; nothing else of the
    verifier changes -/
theorem MCVerifier.enterValues_eq (v : MCVerifier) (h : v.rc4.Inv) (bs : Bytes) :
    v.enterValues bs = .ok { v with rc4 := Rc4.advance bs.length v.rc4,
                                    fed := v.fed ++ xorBytes bs (Rc4.stream bs.length v.rc4) } := by
  induction bs generalizing v with
  | nil =>
    rw [MCVerifier.enterValues]
    simp only [List.length_nil, Rc4.advance, Rc4.stream, xorBytes, List.zipWith_nil_left, List.append_nil]
  | cons b bs ih =>
    rw [MCVerifier.enterValues, MCVerifier.enterValue, Rc4.apply_eq _ h]
    simp only [Out.bind_ok, Out.pure_eq]
    -- `advance_inv`, not `next_inv`: matching `advance 1 r` against `r.next` unfolds `Rc4.next`, which is slow
    rw [ih _ (Rc4.advance_inv _ _ h)]
    simp only [List.append_assoc]
    rfl

theorem MCVerifier.enterValues_append (v : MCVerifier) (a b : Bytes) :
    v.enterValues (a ++ b) = (v.enterValues a >>= fun v' => v'.enterValues b) := by
  induction a generalizing v with
  | nil => simp [MCVerifier.enterValues]
  | cons x xs ih =>
    simp only [List.cons_append, MCVerifier.enterValues]
    cases v.enterValue x with
    | panic p => rfl
    | ok v1 => simp only [Out.bind_ok, ih]

/-- the server-side loop re-enters, round by round, the cells of the card at the challenged numbers -/
theorem mcVerifyLoop_eq (card : MatrixCard) (hc : card.WF) (n r : Nat) (v : MCVerifier)
    (hw : v.width = card.width) (hh : v.height = card.height)
    (hl : v.coordinates.length = v.challengeCount)
    (hb : ∀ c ∈ v.coordinates, c.toNat < v.width * v.height) (hi : v.rc4.Inv)
    (hrn : r + n ≤ v.challengeCount) :
    mcVerifyLoop card n r v
      = v.enterValues (((v.coordinates.drop r).take n).flatMap (fun c => card.cell c.toNat)) := by
  induction n generalizing r v with
  | zero => simp [mcVerifyLoop, MCVerifier.enterValues]
  | succ n ih =>
    obtain ⟨x, y, hg, hx, hy, hr', hxy⟩ := v.getCoordinates_lt r (by omega) hl hb
    have hnum := card.getNumberAt_eq hc x y (by omega) (by omega)
    rw [← hw, hxy] at hnum
    have he := v.enterValues_eq hi (card.cell v.coordinates[r].toNat)
    rw [List.drop_eq_getElem_cons hr', List.take_succ_cons, List.flatMap_cons,
      MCVerifier.enterValues_append, he, Out.bind_ok]
    simp only [mcVerifyLoop, hg, Out.bind_ok, hnum, he]
    exact ih (r+1) _ hw hh hl hb (Rc4.advance_inv _ _ hi) (by simp only; omega)

/-- `cells` are the digit groups a user reads off the printed card for rounds `0 .. count-1` of the
    verifier `v`: for each round the verifier names a position (x, y), and `cells[r]` is what is
    printed at row `y`, column `x` (entry number `y*width + x` of `to_printer()`) -/
def ReadsOffCard (card : MatrixCard) (v : MCVerifier) (cells : List Bytes) : Prop :=
  cells.length = v.challengeCount ∧
  ∀ r (hr : r < cells.length), ∃ x y, v.getCoordinates r = .ok (some (x, y)) ∧
    card.printed (y * card.width + x) = .ok (some cells[r])

theorem readsOffCard_iff (card : MatrixCard) (hc : card.WF) (v : MCVerifier) (cells : List Bytes)
    (hw : v.width = card.width) (hh : v.height = card.height)
    (hl : v.coordinates.length = v.challengeCount)
    (hb : ∀ c ∈ v.coordinates, c.toNat < v.width * v.height) :
    ReadsOffCard card v cells ↔ cells = v.coordinates.map (fun c => card.cell c.toNat) := by
  have key : ∀ r (hr : r < v.coordinates.length), ∃ x y, v.getCoordinates r = .ok (some (x, y)) ∧
      card.printed (y * card.width + x) = .ok (some (card.cell v.coordinates[r].toNat)) := by
    intro r hr
    obtain ⟨x, y, hg, _, _, _, hxy⟩ := v.getCoordinates_lt r (hl ▸ hr) hl hb
    have := hb _ (List.getElem_mem hr)
    exact ⟨x, y, hg, by rw [← hw, hxy, card.printed_eq hc, if_pos (by rwa [← hw, ← hh])]⟩
  constructor
  · rintro ⟨h1, h2⟩
    apply List.ext_getElem
    · rw [List.length_map, h1, hl]
    · intro i hi1 hi2
      obtain ⟨x, y, hg, hp⟩ := h2 i hi1
      obtain ⟨x', y', hg', hp'⟩ := key i (by simpa using hi2)
      cases hg.symm.trans hg'
      rw [List.getElem_map]
      exact Option.some.inj (Out.ok.inj (hp.symm.trans hp'))
  · rintro rfl
    refine ⟨by rw [List.length_map, hl], fun r hr => ?_⟩
    rw [List.getElem_map]
    exact key r (by simpa using hr)

/-- the whole server-side check, end to end. With `v0` the verifier, `r0` its fresh RC4 state and
    `k = MD5(seed_le8 | session key)`: entering any bytes RC4-encrypts them from `r0` and feeds the HMAC
    keyed with `k`; the server's verdict on a proof is its comparison with the HMAC of the encrypted
    digits that are printed at the challenged cells -/
theorem verify_session (C : Crypto) (card : MatrixCard) (hc : card.WF) (count seed : Nat) (K : Bytes)
    (hcount : count ≤ card.width * card.height) :
    ∃ v0 r0, MCVerifier.new C count card.height seed card.width K = .ok v0 ∧
      Rc4.new (C.md5 (leN 8 seed ++ K)) = .ok r0 ∧ v0.challengeCount = count ∧
      ReadsOffCard card v0 (v0.coordinates.map fun c => card.cell c.toNat) ∧
      (∀ entered, ∃ v1 r1 enc, v0.enterValues entered = .ok v1 ∧ r0.apply entered = .ok (r1, enc) ∧
        v1.intoProof C = C.hmac (C.md5 (leN 8 seed ++ K)) enc) ∧
      ∀ cells, ReadsOffCard card v0 cells → ∃ r1 enc, r0.apply cells.flatten = .ok (r1, enc) ∧
        ∀ proof, verifyMatrixCardHash C card count seed K proof
          = .ok (C.hmac (C.md5 (leN 8 seed ++ K)) enc == proof) := by
  have hi := Rc4.keyed_inv (C.md5 (leN 8 seed ++ K))
  have hnew := MCVerifier.new_eq C count card.height seed card.width K
  rw [generateCoordinates_eq, if_neg (Nat.not_lt_of_le hc.small), if_pos hcount, Out.bind_ok] at hnew
  obtain ⟨f1, _, f3⟩ := coords_facts card.width card.height count seed hc.small hcount
  refine ⟨_, _, hnew, Rc4.new_eq _, rfl, (readsOffCard_iff card hc _ _ rfl rfl f1 f3).mpr rfl,
    fun entered => ⟨_, _, _, MCVerifier.enterValues_eq _ hi entered, Rc4.apply_eq _ hi entered, rfl⟩,
    fun cells hcells => ⟨_, _, Rc4.apply_eq _ hi _, fun proof => ?_⟩⟩
  rw [(readsOffCard_iff card hc _ _ rfl rfl f1 f3).mp hcells, ← List.flatMap_def, verifyMatrixCardHash,
    hnew, Out.bind_ok, mcVerifyLoop_eq card hc count 0 _ rfl rfl f1 f3 hi (Nat.le_of_eq (Nat.zero_add _)),
    List.drop_zero, List.take_of_length_le (Nat.le_of_eq f1), MCVerifier.enterValues_eq _ hi]
  rfl

end WowSrp
