/-
The RC4 PRGA step is a bijection on states with an intact table (`Rc4.Inv`: 256 entries), whatever the
table holds: from `(S', i', j')` one recovers `i = i' - 1`, `S = swap S' i' j'` (a swap at the same two
positions is an involution) and `j = j' - S[i']` (the byte that was added to `j` sits at `S'[j']`).
Hence `advance n` (n keystream bytes) is injective, for every `n`. The output byte plays no role.
Core Lean only.
-/
import WowSrp.Lemmas.Rc4
namespace WowSrp

/-- the state before one `pseudo_random_generation`, recovered from the state after it -/
def Rc4.prev (r : Rc4) : Rc4 :=
  let s := swapPure r.state r.i.toNat r.j.toNat
  ⟨s, r.i - 1, r.j - s[r.i.toNat]!⟩

theorem Rc4.prev_inv (r : Rc4) (h : r.Inv) : r.prev.Inv := by
  simp [Rc4.Inv, Rc4.prev, swapPure_size]; exact h

theorem Rc4.prev_next (r : Rc4) (h : r.Inv) : r.next.prev = r := by
  obtain ⟨s, i, j⟩ := r
  have hlt : ∀ b : UInt8, b.toNat < s.size := Rc4.Inv.lt (r := ⟨s, i, j⟩) h
  simp only [Rc4.prev, Rc4.next]
  rw [swapPure_swapPure s _ _ (hlt _) (hlt _)]
  congr 1
  · exact UInt8.add_sub_cancel i 1
  · exact UInt8.add_sub_cancel j _

theorem Rc4.next_prev (r : Rc4) (h : r.Inv) : r.prev.next = r := by
  obtain ⟨s, i, j⟩ := r
  have hlt : ∀ b : UInt8, b.toNat < s.size := Rc4.Inv.lt (r := ⟨s, i, j⟩) h
  have hi : i - 1 + 1 = i := UInt8.sub_add_cancel i 1
  simp only [Rc4.prev, Rc4.next, hi]
  have hj : j - (swapPure s i.toNat j.toNat)[i.toNat]! + (swapPure s i.toNat j.toNat)[i.toNat]! = j :=
    UInt8.sub_add_cancel j _
  rw [hj, swapPure_swapPure s _ _ (hlt _) (hlt _)]

theorem Rc4.next_injective (a b : Rc4) (ha : a.Inv) (hb : b.Inv) (h : a.next = b.next) : a = b := by
  rw [← a.prev_next ha, ← b.prev_next hb, h]

theorem Rc4.next_surjective (r : Rc4) (h : r.Inv) : ∃ a : Rc4, a.Inv ∧ a.next = r :=
  ⟨r.prev, r.prev_inv h, r.next_prev h⟩

/-- the same about the model's panicking `pseudo_random_generation` itself: two intact states that it
    takes to the same successor state are equal — whatever the two output bytes are -/
theorem Rc4.prga_injective (a b : Rc4) (ha : a.Inv) (hb : b.Inv) (s : Rc4) (va vb : UInt8)
    (h₁ : a.prga = .ok (s, va)) (h₂ : b.prga = .ok (s, vb)) : a = b := by
  rw [a.prga_pure ha] at h₁
  rw [b.prga_pure hb] at h₂
  injection h₁ with h₁
  injection h₂ with h₂
  exact Rc4.next_injective a b ha hb ((Prod.mk.inj h₁).1.trans (Prod.mk.inj h₂).1.symm)

theorem Rc4.advance_injective (n : Nat) (a b : Rc4) (ha : a.Inv) (hb : b.Inv)
    (h : Rc4.advance n a = Rc4.advance n b) : a = b := by
  induction n generalizing a b with
  | zero => exact h
  | succ n ih => exact Rc4.next_injective a b ha hb (ih a.next b.next (a.next_inv ha) (b.next_inv hb) h)

/-- the same about `apply_keystream`: two intact states that end in the same state after calls on data of
    the same length (any data: the state does not depend on it) were the same state -/
theorem Rc4.apply_injective_state (a b : Rc4) (ha : a.Inv) (hb : b.Inv) (xs ys : Bytes)
    (hl : xs.length = ys.length) (s : Rc4) (ox oy : Bytes)
    (h₁ : a.apply xs = .ok (s, ox)) (h₂ : b.apply ys = .ok (s, oy)) : a = b := by
  rw [a.apply_eq ha] at h₁
  rw [b.apply_eq hb] at h₂
  injection h₁ with h₁
  injection h₂ with h₂
  have e := (Prod.mk.inj h₁).1.trans (Prod.mk.inj h₂).1.symm
  rw [hl] at e
  exact Rc4.advance_injective _ a b ha hb e

end WowSrp
