/-
The algebra behind C01, on Mathlib's `Int.ModEq`. Client and server compute the same secret, both
`g ^ (b·(a + u·x))`: `srp_client_base`, `srp_agree` (congruences on integers, for every modulus;
`Lemmas/SrpGroup.lean` reads them at the Spec's terms). A power vanishes modulo a prime only with its
base: `pow_mod_prime_ne_zero`, `modpowVal_eq_zero_of_dvd`. After these: the loop invariant of `powMod`
as a Mathlib congruence, and the client's closed form and non-vanishing for the exact `modpowVal`
expressions that `calculateClientS` / `calculateS` (Model/Srp.lean) hand to `modpow`.
-/
import Mathlib.Data.Int.ModEq
import Mathlib.Data.Nat.Prime.Basic
import Mathlib.Tactic.Ring
import WowSrp.Lemmas.PowMod
namespace WowSrp

/-- `powMod_spec` read from right to left, for handing a concrete power residue to the kernel. Stated
    here because in this file `^` on `ℕ` is Mathlib's `Monoid.npow`: rewriting a closed `7 ^ x % N` with
    the core-Lean statement makes the kernel compare the two `^` by evaluating `7 ^ x` (x ≈ 2^160). -/
theorem pow_mod_eq_powMod (b e m : Nat) : b ^ e % m = powMod b e m := (powMod_spec b e m).symm

/-- the client's base: `B − k·v ≡ g^b`, whatever the verifier `v` is -/
theorem srp_client_base (N g k v b : ℕ) :
    (((k * v + g ^ b % N) % N : ℕ) : ℤ) - k * v ≡ (g : ℤ) ^ b [ZMOD N] := by
  have h : (((k * v + g ^ b % N) % N : ℕ) : ℤ) ≡ k * v + (g : ℤ) ^ b [ZMOD N] := by
    push_cast
    exact (Int.mod_modEq _ _).trans (Int.ModEq.add_left _ (Int.mod_modEq _ _))
  simpa using h.sub_right (k * v)

/-- core of C01: client and server secrets are congruent, for every modulus, generator, multiplier
    and every choice of exponents: both are `g ^ (b·(a + u·x))` -/
theorem srp_agree (N g k x a b u : ℕ) :
    let v : ℤ := ((g ^ x % N : ℕ) : ℤ)
    let A : ℤ := ((g ^ a % N : ℕ) : ℤ)
    let B : ℤ := (((k * (g ^ x % N) + g ^ b % N) % N : ℕ) : ℤ)
    ((B - k * v) ^ (a + u * x)) % (N : ℤ) = ((A * (v ^ u % N)) ^ b) % (N : ℤ) := by
  intro v A B
  have hv : v ≡ (g : ℤ) ^ x [ZMOD N] := by
    simp only [v]; push_cast; exact Int.mod_modEq _ _
  have hA : A ≡ (g : ℤ) ^ a [ZMOD N] := by
    simp only [A]; push_cast; exact Int.mod_modEq _ _
  have h1 : (B - k * v) ^ (a + u * x) ≡ ((g : ℤ) ^ b) ^ (a + u * x) [ZMOD N] :=
    (srp_client_base N g k _ b).pow _
  have h2 : (A * (v ^ u % N)) ^ b ≡ ((g : ℤ) ^ a * ((g : ℤ) ^ x) ^ u) ^ b [ZMOD N] :=
    (hA.mul ((Int.mod_modEq _ _).trans (hv.pow u))).pow _
  have h3 : ((g : ℤ) ^ b) ^ (a + u * x) = ((g : ℤ) ^ a * ((g : ℤ) ^ x) ^ u) ^ b := by ring
  exact (h1.trans (h3 ▸ Int.ModEq.refl _)).trans h2.symm

theorem pow_mod_prime_ne_zero (N g e : Nat) (hp : Nat.Prime N) (hg : ¬ N ∣ g) : g ^ e % N ≠ 0 := by
  intro h
  exact hg (hp.dvd_of_dvd_pow (Nat.dvd_of_mod_eq_zero h))

/-- a base divisible by `N` gives `0` for a positive exponent (the C14 situation `B = k·v mod N`) -/
theorem modpowVal_eq_zero_of_dvd (N : Nat) (base : Int) (e : Nat) (hN : 0 < N) (he : 0 < e)
    (hb : (N : Int) ∣ base) : modpowVal base e N = 0 := by
  apply Int.ofNat_inj.mp
  rw [modpowVal_spec base e N hN]
  exact Int.emod_eq_zero_of_dvd (dvd_trans hb (dvd_pow_self base (by omega)))

/-- conversely, for a prime modulus and an arbitrary integer base (the client's `B - k·v`) -/
theorem modpowVal_ne_zero_of_not_dvd (N : Nat) (base : Int) (e : Nat) (hp : Nat.Prime N)
    (hb : ¬ (N : Int) ∣ base) : modpowVal base e N ≠ 0 := by
  intro h
  have hs := modpowVal_spec base e N hp.pos
  rw [h] at hs
  have hd : (N : Int) ∣ base ^ e := Int.dvd_of_emod_eq_zero hs.symm
  rw [Int.natCast_dvd, Int.natAbs_pow] at hd
  exact hb (Int.natCast_dvd.mpr (hp.dvd_of_dvd_pow hd))

theorem powModAux_spec (fuel b e m acc : Nat) (hf : e < 2 ^ fuel) :
    powModAux fuel b e m acc ≡ acc * b ^ e [MOD m] :=
  powModAux_mod fuel b e m acc hf

/-- with the (excluded, panicking) zero modulus the definition degenerates to the plain power -/
theorem powMod_zero_modulus (b e : Nat) : powMod b e 0 = b ^ e := by
  rw [powMod_spec, Nat.mod_zero]

/-- the client's secret in closed form, as `calculateClientS` hands it to `modpow` -/
theorem srp_client_closed_form (N g k x a b u : Nat) (hN : 0 < N) :
    let v := modpowVal (g : Int) x N
    let B := (k * v + modpowVal (g : Int) b N) % N
    modpowVal ((B : Int) - (k : Int) * (v : Int)) (a + u * x) N = g ^ (b * (a + u * x)) % N := by
  intro v B
  apply Int.ofNat_inj.mp
  rw [modpowVal_spec _ _ _ hN, pow_mul]
  simp only [B, modpowVal_natCast]
  push_cast
  exact (srp_client_base N g k v b).pow (a + u * x)

/-- the server's secret, as `calculateS` hands it to `modpow`, is a unit: `(A · v^u)^b mod N ≠ 0`
    whenever `N` is prime and divides neither `A` nor `v` -/
theorem server_S_ne_zero (N A v u b : Nat) (hp : Nat.Prime N) (hA : ¬ N ∣ A) (hv : ¬ N ∣ v) :
    modpowVal ((A : Int) * ((modpowVal (v : Int) u N : Nat) : Int)) b N ≠ 0 := by
  rw [← Int.natCast_mul, modpowVal_natCast, modpowVal_natCast]
  refine pow_mod_prime_ne_zero N _ b hp fun h => ?_
  rcases (Nat.Prime.dvd_mul hp).mp h with h | h
  · exact hA h
  · exact pow_mod_prime_ne_zero N v u hp hv (Nat.eq_zero_of_dvd_of_lt h (Nat.mod_lt _ hp.pos))

end WowSrp
