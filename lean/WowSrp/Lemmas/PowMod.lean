/-
`powMod` (square-and-multiply, `Model/Basic.lean`) computes `b ^ e % m`; `modpowVal` / `Backend.modpow`
(`Model/Deps.lean`) compute the non-negative residue of an integer power. Core Lean only.
-/
import WowSrp.Model.Deps
namespace WowSrp

/-- loop invariant of square-and-multiply, as an equation of remainders (any modulus, zero included) -/
theorem powModAux_mod (fuel b e m acc : Nat) (hf : e < 2 ^ fuel) :
    powModAux fuel b e m acc % m = acc * b ^ e % m := by
  induction fuel generalizing b e acc with
  | zero =>
    have : e = 0 := by simpa using hf
    subst this; simp [powModAux]
  | succ n ih =>
    unfold powModAux
    split
    · next h => subst h; simp
    · next h =>
      have hlt : e / 2 < 2 ^ n := by
        rw [Nat.pow_succ] at hf; omega
      rw [ih _ _ _ hlt]
      have hsq : (b * b % m) ^ (e / 2) % m = b ^ (2 * (e / 2)) % m := by
        rw [← Nat.pow_mod, Nat.pow_mul, Nat.pow_two]
      rcases Nat.mod_two_eq_zero_or_one e with h0 | h1
      · have he : e = 2 * (e / 2) := by omega
        simp only [h0, Nat.zero_ne_one, if_false]
        rw [Nat.mul_mod, hsq, ← Nat.mul_mod, ← he]
      · have he : e = 2 * (e / 2) + 1 := by omega
        simp only [h1, if_true]
        rw [Nat.mul_mod, Nat.mod_mod, hsq, ← Nat.mul_mod]
        conv => rhs; rw [he, Nat.pow_succ]
        rw [Nat.mul_assoc, Nat.mul_comm b]

/-- the accumulator stays reduced -/
theorem powModAux_mod_self (fuel b e m acc : Nat) (hacc : acc % m = acc) :
    powModAux fuel b e m acc % m = powModAux fuel b e m acc := by
  induction fuel generalizing b e acc with
  | zero => simpa [powModAux] using hacc
  | succ n ih =>
    unfold powModAux
    split
    · exact hacc
    · apply ih
      split
      · exact Nat.mod_mod _ _
      · exact hacc

/-- Square-and-multiply computes the power residue. Holds for every modulus: for `m = 0` both sides
    are `b ^ e` (`x % 0 = x`), for `m = 1` both are `0`. -/
theorem powMod_spec (b e m : Nat) : powMod b e m = b ^ e % m := by
  unfold powMod
  rw [← powModAux_mod_self _ _ _ _ _ (Nat.mod_mod 1 m),
    powModAux_mod _ _ _ _ _ Nat.lt_log2_self, Nat.mul_mod, Nat.mod_mod, ← Nat.pow_mod,
    ← Nat.mul_mod, Nat.one_mul]

theorem powMod_lt (b e m : Nat) (hm : 0 < m) : powMod b e m < m := by
  rw [powMod_spec]; exact Nat.mod_lt _ hm

theorem powMod_one (b e : Nat) : powMod b e 1 = 0 := by
  rw [powMod_spec, Nat.mod_one]

theorem powMod_zero_exp (b m : Nat) : powMod b 0 m = 1 % m := by
  rw [powMod_spec, Nat.pow_zero]

theorem Int.emod_pow_emod (a : Int) (e : Nat) (m : Int) : (a % m) ^ e % m = a ^ e % m := by
  induction e with
  | zero => rw [Int.pow_zero, Int.pow_zero]
  | succ e ih => rw [Int.pow_succ, Int.pow_succ, Int.mul_emod, ih, Int.emod_emod, ← Int.mul_emod]

theorem modpowVal_spec (base : Int) (exp m : Nat) (hm : 0 < m) :
    (modpowVal base exp m : Int) = (base ^ exp) % (m : Int) := by
  unfold modpowVal
  rw [powMod_spec, Int.natCast_emod, Int.natCast_pow,
    Int.toNat_of_nonneg (Int.emod_nonneg _ (by omega)), Int.emod_pow_emod]

theorem modpowVal_lt (base : Int) (exp m : Nat) (hm : 0 < m) : modpowVal base exp m < m :=
  powMod_lt _ _ _ hm

theorem modpowVal_natCast (b e m : Nat) : modpowVal (b : Int) e m = b ^ e % m := by
  unfold modpowVal
  rw [powMod_spec, ← Int.natCast_emod, Int.toNat_natCast, ← Nat.pow_mod]

theorem modpowVal_congr (b₁ b₂ : Int) (e m : Nat) (h : b₁ % (m : Int) = b₂ % (m : Int)) :
    modpowVal b₁ e m = modpowVal b₂ e m := by
  unfold modpowVal; rw [h]

theorem modpowVal_one_modulus (base : Int) (exp : Nat) : modpowVal base exp 1 = 0 :=
  powMod_one _ _

theorem Backend.modpow_ok (be : Backend) (base : Int) (exp m : Nat) (hm : 0 < m) :
    be.modpow base exp m = .ok (modpowVal base exp m) := by
  unfold Backend.modpow
  rw [if_neg (by omega)]

theorem Backend.modpow_panic_iff (be : Backend) (base : Int) (exp m : Nat) :
    (∃ s, be.modpow base exp m = .panic s) ↔ m = 0 := by
  unfold Backend.modpow
  split
  · next h => simp [h]
  · next h => simp [h]

/-- the two back ends agree on `modpow` whenever it does not panic, and panic together -/
theorem Backend.modpow_ok_iff (be : Backend) (base : Int) (exp m : Nat) :
    (∃ r, be.modpow base exp m = .ok r) ↔ 0 < m := by
  unfold Backend.modpow
  split
  · next h => simp [h]
  · next h => simp; omega

theorem remOut_ok (a b : Nat) (hb : 0 < b) : remOut a b = .ok (a % b) := by
  unfold remOut; rw [if_neg (by omega)]

end WowSrp
