/-
Helper lemmas about the little-endian encodings of `Model/Basic.lean` and `Model/Deps.lean`
(`ofLE`, `toLE`, `leN`, `ofBE`, `Backend.toBytesLe`, `padCopy`). Core Lean only.
-/
import WowSrp.Model.Deps
namespace WowSrp

theorem UInt8.toNat_ofNat_mod (n : Nat) : (UInt8.ofNat (n % 256)).toNat = n % 256 := by
  simp [UInt8.toNat_ofNat']

theorem ofLE_nil : ofLE [] = 0 := rfl

theorem ofLE_cons (b : UInt8) (bs : Bytes) : ofLE (b :: bs) = b.toNat + 256 * ofLE bs := rfl

theorem toLE_zero : toLE 0 = [] := by
  unfold toLE; simp

theorem toLE_pos (n : Nat) (h : n ≠ 0) : toLE n = UInt8.ofNat (n % 256) :: toLE (n / 256) := by
  rw [toLE]; simp [h]

theorem toLE_eq_nil_iff (n : Nat) : toLE n = [] ↔ n = 0 := by
  constructor
  · intro h
    apply Classical.byContradiction
    intro hn
    rw [toLE_pos n hn] at h
    exact List.cons_ne_nil _ _ h
  · intro h; subst h; exact toLE_zero

theorem ofLE_toLE (n : Nat) : ofLE (toLE n) = n := by
  induction n using Nat.strongRecOn with
  | _ n ih =>
    unfold toLE
    split
    · next h => simp [ofLE, h]
    · next h =>
      simp only [ofLE]
      rw [ih (n / 256) (by omega)]
      rw [UInt8.toNat_ofNat_mod]; omega

theorem ofLE_append (a b : Bytes) : ofLE (a ++ b) = ofLE a + 256 ^ a.length * ofLE b := by
  induction a with
  | nil => simp [ofLE]
  | cons x xs ih => simp only [List.cons_append, ofLE, ih, List.length_cons, Nat.pow_succ]; grind

theorem ofLE_replicate_zero (k : Nat) : ofLE (List.replicate k 0) = 0 := by
  induction k with
  | zero => rfl
  | succ k ih => simp [List.replicate_succ, ofLE, ih]

theorem ofLE_append_replicate_zero (a : Bytes) (k : Nat) : ofLE (a ++ List.replicate k 0) = ofLE a := by
  rw [ofLE_append, ofLE_replicate_zero]; simp

theorem ofLE_lt (bs : Bytes) : ofLE bs < 256 ^ bs.length := by
  induction bs with
  | nil => simp [ofLE]
  | cons b bs ih =>
    simp only [ofLE, List.length_cons, Nat.pow_succ]
    have := b.toNat_lt
    omega

theorem ofLE_lt_of_length_le {bs : Bytes} {w : Nat} (h : bs.length ≤ w) : ofLE bs < 256 ^ w :=
  Nat.lt_of_lt_of_le (ofLE_lt bs) (Nat.pow_le_pow_right (by omega) h)

theorem toLE_length_le (n k : Nat) (h : n < 256 ^ k) : (toLE n).length ≤ k := by
  induction k generalizing n with
  | zero => simp at h; subst h; simp [toLE]
  | succ k ih =>
    unfold toLE
    split
    · simp
    · simp only [List.length_cons]
      have : n / 256 < 256 ^ k := by
        rw [Nat.pow_succ] at h; omega
      have := ih _ this; omega

theorem toLE_length_gt (n k : Nat) (h : 256 ^ k ≤ n) : k < (toLE n).length := by
  apply Classical.byContradiction
  intro hle
  have h1 := ofLE_lt (toLE n)
  rw [ofLE_toLE] at h1
  have h2 : 256 ^ (toLE n).length ≤ 256 ^ k := Nat.pow_le_pow_right (by omega) (by omega)
  omega

theorem toLE_length_le_iff (n k : Nat) : (toLE n).length ≤ k ↔ n < 256 ^ k := by
  constructor
  · intro h
    apply Classical.byContradiction
    intro hn
    have := toLE_length_gt n k (by omega)
    omega
  · exact toLE_length_le n k

theorem ofLE_inj : ∀ (a b : Bytes), a.length = b.length → ofLE a = ofLE b → a = b
  | [], [], _, _ => rfl
  | x :: xs, y :: ys, hl, h => by
    simp only [ofLE] at h
    have hx := x.toNat_lt; have hy := y.toNat_lt
    have h1 : x.toNat = y.toNat := by omega
    have h2 : ofLE xs = ofLE ys := by omega
    have := ofLE_inj xs ys (by simpa using hl) h2
    have hxy : x = y := UInt8.toNat_inj.mp h1
    rw [this, hxy]
  | [], _ :: _, hl, _ => by simp at hl
  | _ :: _, [], hl, _ => by simp at hl

theorem ofLE_eq_zero_iff_forall (bs : Bytes) : ofLE bs = 0 ↔ ∀ b ∈ bs, b = 0 := by
  induction bs with
  | nil => simp [ofLE]
  | cons b bs ih =>
    simp only [ofLE, List.mem_cons, forall_eq_or_imp]
    constructor
    · intro h
      have hb : b.toNat = 0 := by omega
      have hr : ofLE bs = 0 := by omega
      exact ⟨UInt8.toNat_inj.mp (by simpa using hb), ih.mp hr⟩
    · rintro ⟨hb, hr⟩
      subst hb
      rw [ih.mpr hr]; rfl

/-- the value is zero exactly for the all-zero byte strings (`key.iter().all(|b| *b == 0)`) -/
theorem ofLE_eq_zero_iff (bs : Bytes) : ofLE bs = 0 ↔ bs.all (· == 0) = true := by
  rw [ofLE_eq_zero_iff_forall]
  simp [List.all_eq_true]

@[simp] theorem leN_length (w n : Nat) : (leN w n).length = w := by
  induction w generalizing n with
  | zero => rfl
  | succ w ih => simp [leN, ih]

theorem ofLE_leN_mod (w n : Nat) : ofLE (leN w n) = n % 256 ^ w := by
  induction w generalizing n with
  | zero => simp [leN, ofLE, Nat.mod_one]
  | succ w ih =>
    simp only [leN, ofLE, ih, UInt8.toNat_ofNat_mod]
    rw [Nat.pow_succ, Nat.mul_comm (256 ^ w) 256, Nat.mod_mul]

theorem ofLE_leN (w n : Nat) (h : n < 256 ^ w) : ofLE (leN w n) = n := by
  rw [ofLE_leN_mod, Nat.mod_eq_of_lt h]

/-- zero padding up to the width is the fixed-width encoding: what `padCopy` does to a byte string -/
theorem leN_ofLE_of_length_le {bs : Bytes} {w : Nat} (h : bs.length ≤ w) :
    leN w (ofLE bs) = bs ++ List.replicate (w - bs.length) 0 := by
  apply ofLE_inj
  · simp [leN_length]; omega
  · rw [ofLE_leN w _ (ofLE_lt_of_length_le h), ofLE_append_replicate_zero]

theorem leN_ofLE (bs : Bytes) : leN bs.length (ofLE bs) = bs := by
  rw [leN_ofLE_of_length_le (Nat.le_refl _), Nat.sub_self, List.replicate_zero, List.append_nil]

theorem leN_eq_pad_toLE (w n : Nat) (h : n < 256 ^ w) :
    leN w n = toLE n ++ List.replicate (w - (toLE n).length) 0 := by
  rw [← leN_ofLE_of_length_le (toLE_length_le n w h), ofLE_toLE]

theorem leN_zero (w : Nat) : leN w 0 = List.replicate w 0 :=
  leN_ofLE_of_length_le (bs := []) (Nat.zero_le w)

theorem leN_one (g : Nat) : leN 1 g = [UInt8.ofNat g] := by
  have : UInt8.ofNat (g % 256) = UInt8.ofNat g := by
    apply UInt8.toNat_inj.mp; simp [UInt8.toNat_ofNat']
  simp [leN, this]

theorem leN_inj (w a b : Nat) (ha : a < 256 ^ w) (hb : b < 256 ^ w) (h : leN w a = leN w b) : a = b := by
  rw [← ofLE_leN w a ha, ← ofLE_leN w b hb, h]

theorem Backend.ofLE_toBytesLe (be : Backend) (n : Nat) : ofLE (be.toBytesLe n) = n := by
  cases be
  · simp only [Backend.toBytesLe]
    by_cases h : n = 0
    · subst h; rfl
    · rw [if_neg h]; exact ofLE_toLE n
  · exact ofLE_toLE n

/-- `num-bigint` writes zero as `[0]`, otherwise both back ends give the minimal digits -/
theorem Backend.toBytesLe_length_le (be : Backend) (n w : Nat) (h : n < 256 ^ w) (hw : 0 < w) :
    (be.toBytesLe n).length ≤ w := by
  cases be
  · simp only [Backend.toBytesLe]
    by_cases h0 : n = 0
    · rw [if_pos h0]; exact hw
    · rw [if_neg h0]; exact toLE_length_le n w h
  · exact toLE_length_le n w h

theorem Backend.toBytesLe_length_gt (be : Backend) (n w : Nat) (h : 256 ^ w ≤ n) :
    w < (be.toBytesLe n).length := by
  have hn : n ≠ 0 := by
    have : 0 < 256 ^ w := Nat.pow_pos (by omega)
    omega
  cases be
  · simp only [Backend.toBytesLe, hn, if_false]; exact toLE_length_gt n w h
  · exact toLE_length_gt n w h

theorem padCopy_panic (w : Nat) (bs : Bytes) (site : String) (h : w < bs.length) :
    padCopy w bs site = .panic site := by
  unfold padCopy
  rw [if_neg (by omega)]

theorem padCopy_ok (w : Nat) (bs : Bytes) (site : String) (h : bs.length ≤ w) :
    padCopy w bs site = .ok (bs ++ List.replicate (w - bs.length) 0) := by
  unfold padCopy
  rw [if_pos h]

theorem padCopy_eq (w : Nat) (bs : Bytes) (site : String) (h : bs.length ≤ w) :
    padCopy w bs site = .ok (leN w (ofLE bs)) := by
  rw [padCopy_ok w bs site h, leN_ofLE_of_length_le h]

theorem padCopy_ok_iff (w : Nat) (bs : Bytes) (site : String) :
    (∃ r, padCopy w bs site = .ok r) ↔ bs.length ≤ w := by
  unfold padCopy
  split
  · next h => simp [h]
  · next h => simp [h]

theorem padCopy_panic_iff (w : Nat) (bs : Bytes) (site : String) :
    (∃ s, padCopy w bs site = .panic s) ↔ w < bs.length := by
  unfold padCopy
  split
  · next h => simp; omega
  · next h => simp; omega

theorem padCopy_ok_eq_leN (w : Nat) (bs r : Bytes) (site : String) (h : padCopy w bs site = .ok r) :
    r = leN w (ofLE bs) := by
  rw [padCopy_eq w bs site ((padCopy_ok_iff w bs site).1 ⟨r, h⟩)] at h
  exact (Out.ok.inj h).symm

/-- Both back ends: the copy of a number into a zeroed `w`-byte array (`w > 0`) is its fixed-width
    little-endian encoding when it is below `256^w`, and the slice panic otherwise — the zero padding and
    the `[0]` (num-bigint) versus `[]` (rug) conventions for zero make no difference. -/
theorem padCopy_toBytesLe_eq (be : Backend) (w n : Nat) (site : String) (hw : 0 < w) :
    padCopy w (be.toBytesLe n) site = if n < 256 ^ w then .ok (leN w n) else .panic site := by
  split
  · next h => rw [padCopy_eq w _ site (be.toBytesLe_length_le n w h hw), be.ofLE_toBytesLe]
  · next h => exact padCopy_panic w _ site (be.toBytesLe_length_gt n w (Nat.le_of_not_lt h))

theorem padCopy_toBytesLe (be : Backend) (w n : Nat) (site : String) (h : n < 256 ^ w) (hw : 0 < w) :
    padCopy w (be.toBytesLe n) site = .ok (leN w n) := by
  rw [padCopy_toBytesLe_eq be w n site hw, if_pos h]

/-- the rug back end needs no `0 < w` -/
theorem padCopy_toBytesLe_rug (w n : Nat) (site : String) (h : n < 256 ^ w) :
    padCopy w (Backend.rug.toBytesLe n) site = .ok (leN w n) := by
  rw [padCopy_eq w (Backend.rug.toBytesLe n) site (toLE_length_le n w h), Backend.ofLE_toBytesLe]

theorem padCopy_toBytesLe_panic_iff (be : Backend) (w n : Nat) (site : String) (hw : 0 < w) :
    (∃ s, padCopy w (be.toBytesLe n) site = .panic s) ↔ 256 ^ w ≤ n := by
  rw [padCopy_toBytesLe_eq be w n site hw]
  split
  · next h => exact ⟨fun ⟨_, e⟩ => (nomatch e), fun h' => absurd h (Nat.not_lt.2 h')⟩
  · next h => exact ⟨fun _ => Nat.le_of_not_lt h, fun _ => ⟨site, rfl⟩⟩

theorem ofBE_foldl (bs : Bytes) (acc : Nat) :
    bs.foldl (fun acc b => acc * 256 + b.toNat) acc = acc * 256 ^ bs.length + ofLE bs.reverse := by
  induction bs generalizing acc with
  | nil => simp [ofLE]
  | cons b bs ih =>
    simp only [List.foldl_cons, ih, List.reverse_cons, ofLE_append, List.length_reverse, ofLE,
      List.length_cons, Nat.pow_succ]
    grind

theorem ofBE_eq_ofLE_reverse (bs : Bytes) : ofBE bs = ofLE bs.reverse := by
  unfold ofBE
  rw [ofBE_foldl]; simp

/-! The same facts under `Layout.` and `Keys.`; nothing refers to them, use the unqualified names.
`protected`, so that `open WowSrp.Layout` makes no name ambiguous. -/

namespace Layout
protected theorem ofLE_lt (bs : Bytes) : ofLE bs < 256 ^ bs.length := WowSrp.ofLE_lt bs
protected theorem ofLE_inj : ∀ (a b : Bytes), a.length = b.length → ofLE a = ofLE b → a = b := WowSrp.ofLE_inj
protected theorem ofLE_append (a b : Bytes) : ofLE (a ++ b) = ofLE a + 256 ^ a.length * ofLE b :=
  WowSrp.ofLE_append a b
end Layout

namespace Keys
protected theorem ofLE_toLE (n : Nat) : ofLE (toLE n) = n := WowSrp.ofLE_toLE n
protected theorem ofLE_append (a b : Bytes) : ofLE (a ++ b) = ofLE a + 256 ^ a.length * ofLE b :=
  WowSrp.ofLE_append a b
protected theorem ofLE_lt (bs : Bytes) : ofLE bs < 256 ^ bs.length := WowSrp.ofLE_lt bs
protected theorem toLE_length_le (n k : Nat) (h : n < 256 ^ k) : (toLE n).length ≤ k :=
  WowSrp.toLE_length_le n k h
protected theorem ofLE_inj : ∀ (a b : Bytes), a.length = b.length → ofLE a = ofLE b → a = b := WowSrp.ofLE_inj
end Keys

end WowSrp
