/-
Selection without replacement (`Spec.pick`) and the loops that implement it in `remap_pin_grid` (pin.rs) and `generate_coordinates`
(matrix_card.rs). Core Lean only.

The loops keep the cells not yet drawn at the front of the array: the invariant is "the array is `live ++ dead`", and a round replaces
`live` by `live.eraseIdx r` by shifting the cells behind `r` down. Both models' shift loops are the `shiftLoop` of `Lemmas/Shift.lean`
(`mcShift_eq`, `pinShift_eq`), where that fact is proved (`shiftLoop_erase`); here the two outer loops in closed form
(`remapLoop_spec`, `mcCoordLoop_eq`).
-/
import WowSrp.Spec.Pin
import WowSrp.Model.Pin
import WowSrp.Model.MatrixCard
import WowSrp.Lemmas.Shift
namespace WowSrp

theorem ofNat_inj_of_lt {a b : Nat} (ha : a < 256) (hb : b < 256) :
    UInt8.ofNat a = UInt8.ofNat b ↔ a = b :=
  ⟨fun h => by rw [← UInt8.toNat_ofNat_of_lt' ha, h, UInt8.toNat_ofNat_of_lt' hb], fun h => h ▸ rfl⟩

theorem cons_eraseIdx_perm {α} : ∀ (l : List α) (r : Nat) (h : r < l.length),
    (l[r] :: l.eraseIdx r).Perm l
  | x :: xs, 0, _ => by simp
  | x :: xs, r+1, h => by
    have hr : r < xs.length := by simpa using h
    have ih := cons_eraseIdx_perm xs r hr
    simp only [List.getElem_cons_succ, List.eraseIdx_cons_succ]
    exact (List.Perm.swap x (xs[r]'hr) _).trans (ih.cons x)

theorem Spec.pick_nil {α} (n seed : Nat) : Spec.pick n ([] : List α) seed = [] := by
  cases n <;> rfl

/-- (`h` is the bound the `l[…]` on the right needs, in the form `Spec.pick.induct` hands it over) -/
theorem Spec.pick_succ {α} (n : Nat) (l : List α) (seed : Nat) (h : seed % l.length < l.length) :
    Spec.pick (n+1) l seed =
      l[seed % l.length] :: Spec.pick n (l.eraseIdx (seed % l.length)) (seed / l.length) := by
  have h0 : ¬ l.length = 0 := by omega
  rw [Spec.pick, dif_neg h0]

theorem Spec.pick_perm {α} (n : Nat) (l : List α) (seed : Nat) (h : l.length ≤ n) :
    (Spec.pick n l seed).Perm l := by
  induction n, l, seed using Spec.pick.induct with
  | case1 l => rw [List.eq_nil_of_length_eq_zero (Nat.le_zero.mp h)]; exact .refl _
  | case2 n l seed h0 => rw [List.eq_nil_of_length_eq_zero h0, Spec.pick_nil]
  | case3 n l seed h0 r hr ih =>
    rw [Spec.pick_succ _ _ _ hr]
    exact ((ih (by rw [List.length_eraseIdx_of_lt hr]; omega)).cons _).trans (cons_eraseIdx_perm l _ hr)

theorem Spec.pick_length {α} (n : Nat) (l : List α) (seed : Nat) (h : n ≤ l.length) :
    (Spec.pick n l seed).length = n := by
  induction n, l, seed using Spec.pick.induct with
  | case1 => rfl
  | case2 n l seed h0 => omega
  | case3 n l seed h0 r hr ih =>
    rw [Spec.pick_succ _ _ _ hr, List.length_cons, ih (by rw [List.length_eraseIdx_of_lt hr]; omega)]

theorem Spec.pick_subset {α} (n : Nat) (l : List α) (seed : Nat) :
    ∀ a ∈ Spec.pick n l seed, a ∈ l := by
  induction n, l, seed using Spec.pick.induct with
  | case1 => simp [Spec.pick]
  | case2 n l seed h0 => simp [List.eq_nil_of_length_eq_zero h0, Spec.pick_nil]
  | case3 n l seed h0 r hr ih =>
    rw [Spec.pick_succ _ _ _ hr]
    intro a ha
    obtain _ | ⟨_, ha⟩ := ha
    · exact List.getElem_mem _
    · exact (List.eraseIdx_sublist _ _).subset (ih a ha)

theorem Spec.pick_nodup {α} (n : Nat) (l : List α) (seed : Nat) (hl : l.Nodup) :
    (Spec.pick n l seed).Nodup := by
  induction n, l, seed using Spec.pick.induct with
  | case1 => simp [Spec.pick]
  | case2 n l seed h0 => simp [List.eq_nil_of_length_eq_zero h0, Spec.pick_nil]
  | case3 n l seed h0 r hr ih =>
    have hp := List.nodup_cons.mp ((cons_eraseIdx_perm l _ hr).nodup_iff.mpr hl)
    rw [Spec.pick_succ _ _ _ hr, List.nodup_cons]
    exact ⟨fun hm => hp.1 (Spec.pick_subset _ _ _ _ hm), ih hp.2⟩

theorem map_eraseIdx' {α β} (f : α → β) : ∀ (l : List α) (k : Nat),
    (l.map f).eraseIdx k = (l.eraseIdx k).map f
  | [], _ => by simp
  | _ :: _, 0 => by simp
  | x :: xs, k+1 => by simp [map_eraseIdx' f xs k]

theorem Spec.pick_map {α β} (f : α → β) (n : Nat) (l : List α) (seed : Nat) :
    Spec.pick n (l.map f) seed = (Spec.pick n l seed).map f := by
  induction n, l, seed using Spec.pick.induct with
  | case1 => rfl
  | case2 n l seed h0 => simp [List.eq_nil_of_length_eq_zero h0, Spec.pick_nil]
  | case3 n l seed h0 r hr ih =>
    rw [Spec.pick_succ _ _ _ hr, Spec.pick_succ _ _ _ (by simpa using hr)]
    simp only [List.length_map, List.getElem_map, List.map_cons, map_eraseIdx']
    exact congrArg _ ih

def fact : Nat → Nat
  | 0 => 1
  | n+1 => (n+1) * fact n

/-- a full selection from `n` elements depends on the seed only modulo `n!` -/
theorem Spec.pick_add_mul_fact {α} (n : Nat) (l : List α) (seed k : Nat) (hl : l.length = n) :
    Spec.pick n l (seed + k * fact n) = Spec.pick n l seed := by
  induction n generalizing l seed k with
  | zero => rfl
  | succ n ih =>
    have hpos : 0 < l.length := by omega
    have hr : seed % l.length < l.length := Nat.mod_lt _ hpos
    rw [show seed + k * fact (n+1) = seed + l.length * (k * fact n) by rw [fact, hl, Nat.mul_left_comm],
      Spec.pick_succ _ _ _ (by rwa [Nat.add_mul_mod_self_left]), Spec.pick_succ _ _ _ hr]
    simp only [Nat.add_mul_mod_self_left, Nat.add_mul_div_left _ _ hpos]
    rw [ih _ _ _ (by rw [List.length_eraseIdx_of_lt hr]; omega)]

theorem Spec.pick_mod_fact {α} (n : Nat) (l : List α) (seed : Nat) (hl : l.length = n) :
    Spec.pick n l seed = Spec.pick n l (seed % fact n) := by
  rw [← Spec.pick_add_mul_fact n l (seed % fact n) (seed / fact n) hl, Nat.mul_comm,
    Nat.mod_add_div]

theorem mcShift_eq (idx : Bytes) (c j : Nat) :
    mcShift idx c j = shiftLoop "matrix_card.rs:363 index out of bounds" idx c j := by
  induction c generalizing idx j with
  | zero => rfl
  | succ c ih =>
    rw [mcShift, shiftLoop, shiftStep]
    cases idx[j + 1]? with
    | none => rfl
    | some v => by_cases h : j < idx.length <;> simp [h, ih]

/-- the PIN loop is the same loop with the offset `r` folded into the index -/
theorem pinShift_eq (grid : Bytes) (r c j : Nat) :
    pinShift grid r c j = shiftLoop "pin.rs:128 index out of bounds" grid c (r + j) := by
  induction c generalizing grid j with
  | zero => rfl
  | succ c ih =>
    rw [pinShift, shiftLoop, shiftStep]
    cases grid[r + j + 1]? with
    | none => rfl
    | some v => by_cases h : r + j < grid.length <;> simp [h, ih, Nat.add_assoc]

/-- `remap_pin_grid`'s loop appends the selection of all `n` live cells, and never panics -/
theorem remapLoop_spec (n : Nat) (live dead : Bytes) (hn : live.length = n) (seed : Nat) (out : Bytes) :
    remapLoop n (live ++ dead) seed out = .ok (out ++ Spec.pick n live seed) := by
  induction n generalizing live dead seed out with
  | zero => simp [remapLoop, Spec.pick]
  | succ n ih =>
    have hr : seed % live.length < live.length := Nat.mod_lt _ (by omega)
    obtain ⟨y, hy⟩ := shiftLoop_erase "pin.rs:128 index out of bounds" live dead _ hr
    rw [Spec.pick_succ _ _ _ hr, remapLoop, ← hn, List.getElem?_append_left hr,
      List.getElem?_eq_getElem hr]
    simp only [pinShift_eq, Nat.add_zero, Nat.sub_right_comm _ _ 1, hy, Out.bind_ok]
    rw [ih _ _ (by rw [List.length_eraseIdx_of_lt hr, hn]; rfl), List.append_assoc]
    rfl

/-- `generate_coordinates`' loop in closed form: `n` further rounds select `n` of the live cells,
    and panic (in the round that finds none left) iff there are fewer -/
theorem mcCoordLoop_eq (ms n i : Nat) (live dead : Bytes) (hms : ms = i + live.length) (seed : Nat)
    (out : Bytes) :
    mcCoordLoop ms n i (live ++ dead) seed out =
      if n ≤ live.length then .ok (out ++ Spec.pick n live seed)
      else .panic "matrix_card.rs:358 remainder by zero" := by
  induction n generalizing i live dead seed out with
  | zero => simp [mcCoordLoop, Spec.pick]
  | succ n ih =>
    have hc : ms - i = live.length := by omega
    rw [mcCoordLoop, if_neg (by omega)]
    simp only [hc]
    by_cases h0 : live.length = 0
    · rw [if_pos h0, if_neg (by omega)]
    · have hr : seed % live.length < live.length := Nat.mod_lt _ (by omega)
      obtain ⟨y, hy⟩ := shiftLoop_erase "matrix_card.rs:363 index out of bounds" live dead _ hr
      rw [if_neg h0, List.getElem?_append_left hr, List.getElem?_eq_getElem hr]
      simp only [mcShift_eq, hy, Out.bind_ok]
      rw [ih (i+1) _ _ (by rw [List.length_eraseIdx_of_lt hr]; omega), List.length_eraseIdx_of_lt hr,
        Spec.pick_succ _ _ _ hr, List.append_assoc]
      by_cases hn : n + 1 ≤ live.length
      · rw [if_pos hn, if_pos (by omega)]; rfl
      · rw [if_neg hn, if_neg (by omega)]

end WowSrp
