/-
What C11 and C14 need on top of Lemmas/Io and Lemmas/Facade: fragmentation and totality of the
fixed-length read wrappers (`readThen`), the observable outcome of an I/O result, and what a write
wrapper wrote (`wroteHeader`). Core Lean only.
-/
import WowSrp.Lemmas.Io
import WowSrp.Lemmas.Header
import WowSrp.Lemmas.Facade
namespace WowSrp

/-- what a caller can observe of a wrapper call besides the reader/writer itself:
    the cipher state afterwards and the `io::Result` -/
def IoRes.outcome {σ α β : Type} (r : IoRes σ α β) : σ × Except IoKind α := (r.state, r.result)

theorem readThen_fragmentation {σ α : Type} (n : Nat) (f : σ → Bytes → Out (σ × α)) (h : σ)
    (pre tail : List REv) (hb : ∀ x ∈ pre, x.benign = true) (hn : n ≤ (dataOf pre).length) :
    ∃ rest, streamOf rest = (dataOf pre).drop n ++ streamOf tail ∧
      readThen n f h (pre ++ tail) = (f h ((dataOf pre).take n)).mapOk fun p => ⟨p.1, .ok p.2, rest⟩ := by
  obtain ⟨rest, hr, hs, _, _⟩ := readExact_benign_ok pre tail n hb hn
  exact ⟨rest, hs, readThen_ok hr⟩

theorem readThen_fragmentation_same {σ α : Type} (n : Nat) (f : σ → Bytes → Out (σ × α)) (h : σ)
    (pre₁ pre₂ tail₁ tail₂ : List REv) (hb₁ : ∀ x ∈ pre₁, x.benign = true) (hb₂ : ∀ x ∈ pre₂, x.benign = true)
    (hsame : dataOf pre₁ = dataOf pre₂) (hn : n ≤ (dataOf pre₁).length) :
    (readThen n f h (pre₁ ++ tail₁)).mapOk IoRes.outcome = (readThen n f h (pre₂ ++ tail₂)).mapOk IoRes.outcome := by
  obtain ⟨_, _, e1⟩ := readThen_fragmentation n f h pre₁ tail₁ hb₁ hn
  obtain ⟨_, _, e2⟩ := readThen_fragmentation n f h pre₂ tail₂ hb₂ (hsame ▸ hn)
  rw [e1, e2, hsame]
  cases f h ((dataOf pre₂).take n) <;> rfl

theorem readThen_total {σ α : Type} {n : Nat} {f : σ → Bytes → Out (σ × α)} {h : σ} (P : σ → Prop) (hp : P h)
    (hf : ∀ buf, buf.length = n → ∃ h' r, f h buf = .ok (h', r) ∧ P h') (script : List REv) :
    ∃ r, readThen n f h script = .ok r ∧ P r.state := by
  cases hre : readExact script n [] with
  | mk res rest =>
    cases res with
    | error k => exact ⟨_, readThen_error hre, hp⟩
    | ok buf =>
      obtain ⟨h', r, hd, hp'⟩ := hf buf (readExact_length _ _ _ _ hre)
      exact ⟨_, (readThen_ok hre).trans (Out.mapOk_ok _ hd), hp'⟩

/-- what any of the four write wrappers does with the header `hdr` its typed helper produced -/
def wroteHeader {σ : Type} (st : σ) (script : List WEv) (hdr : Bytes) : Out (IoRes σ Unit Bytes) :=
  .ok ⟨st, (writeAll script hdr []).1, (writeAll script hdr []).2⟩

/-- a write wrapper's equation (`…_eq`, Lemmas/Facade: `enc` is the typed helper's outcome, `write_all` follows) read
    backwards: if the wrapper returned `r`, the helper returned `r.state` and some header `hdr`, `r.result` and `r.rest`
    are what `write_all` returned and wrote on `hdr`, and `Ok(())` means that all of `hdr` was written -/
theorem wrote_never_swallowed {σ : Type} (enc : Out (σ × Bytes)) (script : List WEv) (r : IoRes σ Unit Bytes)
    (h : enc.mapOk (fun p => (⟨p.1, (writeAll script p.2 []).1, (writeAll script p.2 []).2⟩ : IoRes σ Unit Bytes))
      = .ok r) :
    ∃ hdr, enc = .ok (r.state, hdr) ∧ r.result = (writeAll script hdr []).1 ∧
      r.rest = (writeAll script hdr []).2 ∧ (r.result = .ok () → r.rest = hdr) := by
  obtain ⟨⟨st, hdr⟩, he, rfl⟩ := (Out.mapOk_eq_ok_iff _ _ _).1 h
  exact ⟨hdr, he, rfl, rfl, fun hok => by simpa using writeAll_ok_sink script hdr [] hok⟩

end WowSrp
