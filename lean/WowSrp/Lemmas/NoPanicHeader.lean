/-
C14, header side: the Vanilla / TBC recurrence ciphers and the Wrath RC4 ciphers never reach a `panic`,
whatever bytes they are fed, in any order and amount: `_ok` lemmas ("returns, and the invariant holds
again") for the entry points, and `runCalls_ok_of_inv` for whole histories. Vanilla / TBC under
`Half.Inv e.keyLen`, which admits keys longer than the modulus, so these do not follow from the equations
of Lemmas/HeaderSpec.lean. Wrath: from `Rc4.apply_ok` and those equations (the entry points not found
here are read off the equations in Props/C14.lean), with the invariant written `state.size = 256` as
C14's statements have it. Core Lean only.
-/
import WowSrp.Lemmas.HeaderSpec
namespace WowSrp

theorem Half.encrypt_ok (e : Exp) (h : Half) (data : Bytes) (hi : h.Inv e.keyLen) :
    ∃ h' out, h.encrypt e data = .ok (h', out) ∧ h'.Inv e.keyLen ∧ out.length = data.length := by
  rw [Half.encrypt_eq_runSteps]
  exact runSteps_ok_of_inv _ (Half.Inv e.keyLen)
    (fun h x hp => ⟨_, _, encStep_ok _ h x hp, Half.Inv_step _ h _ hp⟩) h data hi

theorem Half.decrypt_ok (e : Exp) (h : Half) (data : Bytes) (hi : h.Inv e.keyLen) :
    ∃ h' out, h.decrypt e data = .ok (h', out) ∧ h'.Inv e.keyLen ∧ out.length = data.length := by
  rw [Half.decrypt_eq_runSteps]
  exact runSteps_ok_of_inv _ (Half.Inv e.keyLen)
    (fun h x hp => ⟨_, _, decStep_ok _ h x hp, Half.Inv_step _ h _ hp⟩) h data hi

theorem Half.decryptServerHeader_ok (e : Exp) (h : Half) (data : Bytes) (hi : h.Inv e.keyLen)
    (hl : data.length = 4) :
    ∃ h' r, h.decryptServerHeader e data = .ok (h', r) ∧ h'.Inv e.keyLen := by
  obtain ⟨h', out, hd, hi', ho⟩ := Half.decrypt_ok e h data hi
  exact ⟨h', Spec.headerOf out, by simp only [Half.decryptServerHeader, hd, Out.bind_ok, parseServerHeader_eq out (ho.trans hl),
    Out.pure_eq], hi'⟩

theorem Half.decryptClientHeader_ok (e : Exp) (h : Half) (data : Bytes) (hi : h.Inv e.keyLen)
    (hl : data.length = 6) :
    ∃ h' r, h.decryptClientHeader e data = .ok (h', r) ∧ h'.Inv e.keyLen := by
  obtain ⟨h', out, hd, hi', ho⟩ := Half.decrypt_ok e h data hi
  exact ⟨h', Spec.headerOf out, by simp only [Half.decryptClientHeader, hd, Out.bind_ok, parseClientHeader_eq out (ho.trans hl),
    Out.pure_eq], hi'⟩

theorem Half.readServerHeader_ok (e : Exp) (h : Half) (script : List REv) (hi : h.Inv e.keyLen) :
    ∃ r, h.readServerHeader e script = .ok r ∧ r.state.Inv e.keyLen :=
  Half.readServerHeader_eq_readThen e h script ▸
    readThen_total _ hi (fun buf hl => Half.decryptServerHeader_ok e h buf hi hl) script

theorem Half.readClientHeader_ok (e : Exp) (h : Half) (script : List REv) (hi : h.Inv e.keyLen) :
    ∃ r, h.readClientHeader e script = .ok r ∧ r.state.Inv e.keyLen :=
  Half.readClientHeader_eq_readThen e h script ▸
    readThen_total _ hi (fun buf hl => Half.decryptClientHeader_ok e h buf hi hl) script

def WClientDec.Inv (h : WClientDec) : Prop := h.rc4.state.size = 256 ∧ h.header.length = 4

def WServerEnc.Inv (h : WServerEnc) : Prop := h.rc4.state.size = 256

theorem WClientCrypto.new_ok (C : Crypto) (K : Bytes) :
    ∃ c, WClientCrypto.new C K = .ok c ∧ c.decrypt.Inv ∧ c.encrypt.state.size = 256 :=
  ⟨_, WClientCrypto.new_eq C K, ⟨wrathGen_inv .., rfl⟩, wrathGen_inv ..⟩

theorem WServerCrypto.new_ok (C : Crypto) (K : Bytes) :
    ∃ c, WServerCrypto.new C K = .ok c ∧ c.decrypt.state.size = 256 ∧ c.encrypt.Inv :=
  ⟨_, WServerCrypto.new_eq C K, wrathGen_inv .., wrathGen_inv ..⟩

theorem WClientDec.decrypt_ok (h : WClientDec) (data : Bytes) (hi : h.Inv) :
    ∃ h' out, h.decrypt data = .ok (h', out) ∧ h'.Inv ∧ out.length = data.length := by
  obtain ⟨r', out, ha, hsz, hl⟩ := Rc4.apply_ok h.rc4 data hi.1
  exact ⟨{ h with rc4 := r' }, out, by simp only [WClientDec.decrypt, ha, Out.bind_ok, Out.pure_eq], ⟨hsz, hi.2⟩, hl⟩

theorem WClientDec.attempt_ok (h : WClientDec) (buf : Bytes) (hi : h.Inv) (hl : buf.length = 4) :
    ∃ h' a, h.attempt buf = .ok (h', a) ∧ h'.Inv := by
  rw [WClientDec.attempt_eq h hi.1 buf hl]
  split
  · exact ⟨_, _, rfl, Rc4.advance_inv _ _ hi.1, (Spec.Rc4.crypt_length _ _).trans hl⟩
  · exact ⟨_, _, rfl, Rc4.advance_inv _ _ hi.1, hi.2⟩

theorem wServerDecryptHeader_ok (r : Rc4) (data : Bytes) (hs : r.state.size = 256) (hl : data.length = 6) :
    ∃ r' h, wServerDecryptHeader r data = .ok (r', h) ∧ r'.state.size = 256 :=
  ⟨_, _, wServerDecryptHeader_eq r hs data hl, Rc4.advance_inv _ _ hs⟩

theorem wServerReadHeader_ok (r : Rc4) (script : List REv) (hs : r.state.size = 256) :
    ∃ res, wServerReadHeader r script = .ok res ∧ res.state.state.size = 256 :=
  wServerReadHeader_eq_readThen r script ▸
    readThen_total (fun r : Rc4 => r.state.size = 256) hs (fun buf hl => wServerDecryptHeader_ok r buf hs hl) script

theorem WServerEnc.encrypt_ok (h : WServerEnc) (data : Bytes) (hi : h.Inv) :
    ∃ h' out, h.encrypt data = .ok (h', out) ∧ h'.Inv := by
  obtain ⟨r', out, ha, hsz, _⟩ := Rc4.apply_ok h.rc4 data hi
  exact ⟨{ h with rc4 := r' }, out, by simp only [WServerEnc.encrypt, ha, Out.bind_ok, Out.pure_eq], hsz⟩

def HeaderCrypto.Inv (e : Exp) (hc : HeaderCrypto) : Prop :=
  hc.decrypt.Inv e.keyLen ∧ hc.encrypt.Inv e.keyLen

theorem HeaderCrypto.new_inv (C : Crypto) (e : Exp) (K : Bytes) (hK : HeaderKeyOk C e K) :
    (HeaderCrypto.new C e K).Inv e :=
  ⟨Half.newDec_inv C e K hK, Half.newEnc_inv C e K hK⟩

/-- a history: calls `cs` made one after the other on an object, each on the state the previous left -/
def runCalls {σ κ : Type} (run : σ → κ → Out σ) : σ → List κ → Out σ
  | s, [] => .ok s
  | s, c :: cs =>
    match run s c with
    | .panic p => .panic p
    | .ok s' => runCalls run s' cs

theorem runCalls_ok_of_inv {σ κ : Type} (run : σ → κ → Out σ) (P : σ → Prop) (T : κ → Prop)
    (hrun : ∀ s c, P s → T c → ∃ s', run s c = .ok s' ∧ P s') (s : σ) (cs : List κ) (hp : P s)
    (ht : ∀ c ∈ cs, T c) : ∃ s', runCalls run s cs = .ok s' ∧ P s' := by
  induction cs generalizing s with
  | nil => exact ⟨s, rfl, hp⟩
  | cons c cs ih =>
    obtain ⟨s1, h1, hp1⟩ := hrun s c hp (ht c (List.mem_cons_self ..))
    obtain ⟨s2, h2, hp2⟩ := ih s1 hp1 (fun c' hc' => ht c' (List.mem_cons_of_mem _ hc'))
    exact ⟨s2, by simp only [runCalls, h1, h2], hp2⟩

end WowSrp
