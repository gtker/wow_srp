/-
One node of a Pratt primality certificate, on top of Mathlib's `lucas_primality`, with all numeric
side conditions packed into one kernel-evaluable Boolean (`prattCheck`) that uses the model's own
square-and-multiply `powMod`; a whole certificate is a table of such nodes (`prattTableOk`), which is what the
generated `Lemmas/PrattCert.lean` holds.
-/
import Mathlib.NumberTheory.LucasPrimality
import WowSrp.Lemmas.PowMod
namespace WowSrp

/-- one Pratt node: `a` has order exactly `p - 1` modulo `p`, where `fs` lists (at least) the prime
    factors of `p - 1`. `hprod` says that without factoring `p - 1`: a prime `q ∣ p - 1` divides
    `fs.prod ^ 256`, so `fs.prod`, so it is a member of `fs`. The exponent only has to reach the largest
    multiplicity in `p - 1`; 256 does for every `p < 2 ^ 256`, which covers N and all rows below it. -/
theorem pratt_node (p a : ℕ) (fs : List ℕ) (hp : 1 < p)
    (h1 : a ^ (p - 1) % p = 1)
    (hfs : ∀ q ∈ fs, q.Prime ∧ a ^ ((p - 1) / q) % p ≠ 1)
    (hprod : fs.prod ^ 256 % (p - 1) = 0) : p.Prime := by
  apply lucas_primality p (a : ZMod p)
  · have : ((a ^ (p - 1) : ℕ) : ZMod p) = ((1 : ℕ) : ZMod p) := by
      rw [ZMod.natCast_eq_natCast_iff]; exact (by rw [Nat.ModEq, h1, Nat.mod_eq_of_lt hp])
    simpa using this
  · intro q hq hdvd
    have hq_dvd : q ∣ fs.prod ^ 256 := dvd_trans hdvd (Nat.dvd_of_mod_eq_zero hprod)
    have hq_prod : q ∣ fs.prod := hq.dvd_of_dvd_pow hq_dvd
    obtain ⟨r, hr, hqr⟩ := (Prime.dvd_prod_iff hq.prime).mp hq_prod
    have hrp := (hfs r hr).1
    have : q = r := (Nat.prime_dvd_prime_iff_eq hq hrp).mp hqr
    subst this
    intro hcontra
    apply (hfs q hr).2
    have : ((a ^ ((p - 1) / q) : ℕ) : ZMod p) = ((1 : ℕ) : ZMod p) := by simpa using hcontra
    rw [ZMod.natCast_eq_natCast_iff] at this
    rw [this, Nat.mod_eq_of_lt hp]

/-- the numeric side conditions of a Pratt node, as a Boolean the kernel can evaluate -/
def prattCheck (p a : Nat) (fs : List Nat) : Bool :=
  decide (1 < p) && (powMod a (p - 1) p == 1) &&
    fs.all (fun q => powMod a ((p - 1) / q) p != 1) &&
    (powMod fs.prod 256 (p - 1) == 0)

/-- Pratt node in checkable form: the factors are prime (recursively certified) and `prattCheck` holds -/
theorem pratt_node_check (p a : ℕ) (fs : List ℕ) (hprimes : ∀ q ∈ fs, q.Prime)
    (hc : prattCheck p a fs = true) : p.Prime := by
  simp only [prattCheck, Bool.and_eq_true, decide_eq_true_eq, beq_iff_eq, List.all_eq_true,
    bne_iff_ne, ne_eq] at hc
  obtain ⟨⟨⟨hp, h1⟩, hall⟩, hprod⟩ := hc
  refine pratt_node p a fs hp ?_ ?_ ?_
  · rw [← powMod_spec]; exact h1
  · intro q hq
    refine ⟨hprimes q hq, ?_⟩
    rw [← powMod_spec]; exact hall q hq
  · rw [← powMod_spec]; exact hprod

/-- a whole certificate: every row passes `prattCheck`, and its factors are rows further down -/
def prattTableOk : List (Nat × Nat × List Nat) → Bool
  | [] => true
  | (p, a, fs) :: rest => prattTableOk rest && fs.all (fun q => rest.any (·.1 == q)) && prattCheck p a fs

theorem prattTable_sound : ∀ (rows : List (Nat × Nat × List Nat)), prattTableOk rows = true →
    ∀ r ∈ rows, r.1.Prime
  | [], _, _, h => nomatch h
  | (p, a, fs) :: rest, hok, r, hr => by
    simp only [prattTableOk, Bool.and_eq_true, List.all_eq_true, List.any_eq_true, beq_iff_eq] at hok
    obtain ⟨⟨hrest, hfs⟩, hc⟩ := hok
    have ih := prattTable_sound rest hrest
    rcases List.mem_cons.mp hr with rfl | hr
    · refine pratt_node_check p a fs (fun q hq => ?_) hc
      obtain ⟨r', hr', rfl⟩ := hfs q hq
      exact ih r' hr'
    · exact ih r hr

end WowSrp
