/-
The loop `for j in i .. i + c { a[j] = a[j + 1] }` on a byte array, with Rust's bounds checks.  `remap_pin_grid` (pin.rs) and
`generate_coordinates` (matrix_card.rs) both use it to close the gap a drawn cell leaves; the model writes it twice (`pinShift`,
`mcShift`: other panic sites, the PIN one with an offset), `Lemmas/Select.lean` shows both are `shiftLoop`, and
`Lemmas/MiniImp.lean` that the translated statement does one `shiftStep`.  Core Lean only.
-/
import WowSrp.Model.Basic
namespace WowSrp

/-- `a[i] = a[i + 1]` (`msg`: the panic site) -/
def shiftStep (msg : String) (g : Bytes) (i : Nat) : Out Bytes :=
  match g[i + 1]? with
  | none => .panic msg
  | some v => if i < g.length then .ok (g.set i v) else .panic msg

def shiftLoop (msg : String) (g : Bytes) : Nat → Nat → Out Bytes
  | 0, _ => .ok g
  | c + 1, i => shiftStep msg g i >>= fun g' => shiftLoop msg g' c (i + 1)

/-- over `mid.length` cells starting at `x`: every cell of `mid` moves one place down over its neighbour, the last keeps its stale
    value `y` -/
theorem shiftLoop_append (msg : String) (pre mid post : Bytes) (x : UInt8) :
    ∃ y, shiftLoop msg (pre ++ x :: (mid ++ post)) mid.length pre.length = .ok (pre ++ mid ++ y :: post) := by
  induction mid generalizing pre x with
  | nil => exact ⟨x, by simp [shiftLoop]⟩
  | cons m mid ih =>
    obtain ⟨y, hy⟩ := ih (pre ++ [m]) m
    refine ⟨y, ?_⟩
    simp only [List.length_append, List.length_cons, List.length_nil, List.append_assoc,
      List.cons_append, List.nil_append] at hy
    simp [shiftLoop, shiftStep, hy]

/-- the array is `live ++ dead`: shifting from `r` to the end of `live` erases cell `r` of `live`; no panic -/
theorem shiftLoop_erase (msg : String) (live dead : Bytes) (r : Nat) (hr : r < live.length) :
    ∃ y, shiftLoop msg (live ++ dead) (live.length - 1 - r) r = .ok (live.eraseIdx r ++ y :: dead) := by
  have hs : live.take r ++ live[r] :: live.drop (r + 1) = live := by
    rw [← List.drop_eq_getElem_cons hr, List.take_append_drop]
  have := shiftLoop_append msg (live.take r) (live.drop (r + 1)) dead live[r]
  rwa [← List.cons_append, ← List.append_assoc, hs, List.length_take_of_le (Nat.le_of_lt hr),
    List.length_drop, ← List.eraseIdx_eq_take_drop_succ, Nat.add_comm r, ← Nat.sub_sub] at this

end WowSrp
