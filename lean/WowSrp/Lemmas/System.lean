/-
Helper lemmas for the end-to-end theorems of `Props/System.lean`: several calls through the facade of the combined
Vanilla / TBC object are the same calls on one half, the other half carried along (`runChunks_mapOk`).
Core Lean only.
-/
import WowSrp.Lemmas.Header
import WowSrp.Lemmas.Facade
namespace WowSrp

theorem HeaderCrypto.runChunks_encryptData (e : Exp) (hc : HeaderCrypto) (chunks : List Bytes) :
    runChunks (HeaderCrypto.encryptData e) hc chunks =
      (runChunks (Half.encrypt e) hc.encrypt chunks).mapOk fun p => ({ hc with encrypt := p.1 }, p.2) :=
  runChunks_mapOk (Half.encrypt e) _ (·.encrypt) (fun t h => { t with encrypt := h }) (fun _ _ => rfl)
    (fun _ _ _ => rfl) (fun _ => rfl) (fun _ _ => by rfl) hc chunks

theorem HeaderCrypto.runChunks_decryptData (e : Exp) (hc : HeaderCrypto) (chunks : List Bytes) :
    runChunks (HeaderCrypto.decryptData e) hc chunks =
      (runChunks (Half.decrypt e) hc.decrypt chunks).mapOk fun p => ({ hc with decrypt := p.1 }, p.2) :=
  runChunks_mapOk (Half.decrypt e) _ (·.decrypt) (fun t h => { t with decrypt := h }) (fun _ _ => rfl)
    (fun _ _ _ => rfl) (fun _ => rfl) (fun _ _ => by rfl) hc chunks

end WowSrp
