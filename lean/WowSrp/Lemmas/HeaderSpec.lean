/-
The header-crypto calls under their invariants as *equations* over the Spec functions
(`Spec/Session.lean`): "never panics, and the result is this term". First what the two Spec stream ciphers
satisfy by themselves (`Spec.Stream.*`, `Spec.Rc4.crypt_*`: length, append, decrypt after encrypt). Then the
Vanilla / TBC halves under `Half.WF e` (key of the expansion's length, position inside it; this file is
where `Half.WF` is related to `Half.Inv`), the Wrath halves under `Rc4.Inv`; the fixed-size read
wrappers through `readThen` (Lemmas/Facade), the Wrath client's two-read wrapper on its own.
Core Lean only.
-/
import WowSrp.Spec.Session
import WowSrp.Lemmas.Rc4Spec
import WowSrp.Lemmas.HeaderIo
namespace WowSrp
open Spec (Stream Ciphers)

theorem Spec.Stream.encrypt_length (s : Stream) (xs : Bytes) : (s.encrypt xs).2.length = xs.length :=
  Spec.recEnc_length _ _ _ _
theorem Spec.Stream.decrypt_length (s : Stream) (cs : Bytes) : (s.decrypt cs).2.length = cs.length :=
  Spec.recDec_length _ _ _ _

theorem Spec.Stream.after_lt (s : Stream) (h : s.n < s.key.length) (c : Bytes) :
    (s.after c).n < (s.after c).key.length := Nat.mod_lt _ (Nat.zero_lt_of_lt h)

theorem Spec.Stream.after_nil (s : Stream) (h : s.n < s.key.length) : s.after [] = s := by
  simp only [Stream.after, List.length_nil, Nat.add_zero, Nat.mod_eq_of_lt h, List.getLastD_nil]

theorem Spec.Stream.encrypt_append (s : Stream) (a b : Bytes) :
    s.encrypt (a ++ b) = (((s.encrypt a).1.encrypt b).1, (s.encrypt a).2 ++ ((s.encrypt a).1.encrypt b).2) := by
  simp only [Stream.encrypt, Stream.after, Spec.recEnc_append, Spec.recEnc_mod, Spec.recEnc_length, getLastD_append,
    List.length_append, Nat.mod_add_mod, Nat.add_assoc]

theorem Spec.Stream.decrypt_append (s : Stream) (a b : Bytes) :
    s.decrypt (a ++ b) = (((s.decrypt a).1.decrypt b).1, (s.decrypt a).2 ++ ((s.decrypt a).1.decrypt b).2) := by
  simp only [Stream.decrypt, Stream.after, Spec.recDec_append, Spec.recDec_mod, getLastD_append,
    List.length_append, Nat.mod_add_mod, Nat.add_assoc]

/-- decrypting from the position the ciphertext was made at gives the plaintext back and ends where the
    encrypter ended -/
theorem Spec.Stream.decrypt_encrypt (s : Stream) (xs : Bytes) :
    s.decrypt (s.encrypt xs).2 = ((s.encrypt xs).1, xs) := by
  simp only [Stream.decrypt, Stream.encrypt, Spec.recDec_recEnc]

theorem Spec.Rc4.crypt_length (st : Spec.Rc4) (xs : Bytes) : (st.crypt xs).2.length = xs.length := by
  simp [Spec.Rc4.crypt, Spec.Rc4.keystream_length]

theorem Spec.Rc4.crypt_append (st : Spec.Rc4) (a b : Bytes) :
    st.crypt (a ++ b) = (((st.crypt a).1.crypt b).1, (st.crypt a).2 ++ ((st.crypt a).1.crypt b).2) := by
  simp only [Spec.Rc4.crypt, List.length_append, Spec.Rc4.advance_add, Spec.Rc4.keystream_add]
  rw [List.zipWith_append (by rw [Spec.Rc4.keystream_length])]

theorem Spec.Rc4.take_crypt (r : Spec.Rc4) (w tail : Bytes) : ((r.crypt w).2 ++ tail).take w.length = (r.crypt w).2 :=
  List.take_left' (r.crypt_length w)
theorem Spec.Rc4.drop_crypt (r : Spec.Rc4) (w tail : Bytes) : ((r.crypt w).2 ++ tail).drop w.length = tail :=
  List.drop_left' (r.crypt_length w)

/-- `Exp.keyLen` (Lemmas/Header) once more, the spelling `Half.WF` is written in; the two unfold to the same
    term, so a fact about one is accepted where the other is asked -/
def Exp.klen : Exp → Nat
  | .vanilla => 40
  | .tbc => 20

theorem Exp.klen_eq (e : Exp) : e.klen = e.keyLen := rfl

/-- a half *is* a stream position: key, position in the key, last ciphertext byte -/
def Half.abs (h : Half) : Stream := ⟨h.key, h.index, h.prev⟩
def Half.ofStream (s : Stream) : Half := ⟨s.key, s.n, s.prev⟩

@[simp] theorem Half.abs_ofStream (s : Stream) : (Half.ofStream s).abs = s := rfl
@[simp] theorem Half.ofStream_abs (h : Half) : Half.ofStream h.abs = h := rfl

/-- the invariant of the session refinement: key of exactly the expansion's length, position inside it.
    It implies `Half.Inv e.keyLen` (`Half.WF.inv`), which also admits longer keys, and it is what a fresh half
    satisfies (`Half.newEnc_WF`). -/
def Half.WF (e : Exp) (h : Half) : Prop := h.key.length = e.klen ∧ h.index < e.klen

theorem Half.WF.key_length {e : Exp} {h : Half} (hw : h.WF e) : h.key.length = e.keyLen := hw.1

theorem Half.WF.lt {e : Exp} {h : Half} (hw : h.WF e) : h.index < h.key.length := hw.1 ▸ hw.2

theorem Half.WF.inv {e : Exp} {h : Half} (hw : h.WF e) : h.Inv e.keyLen := Half.inv_keyLen e h hw.1 hw.2

theorem Half.newEnc_WF (C : Crypto) (e : Exp) (K : Bytes) (hK : HeaderKeyOk C e K) : (Half.newEnc C e K).WF e :=
  ⟨Half.newEnc_key_length C e K hK, (Half.newEnc_inv C e K hK).2.2.2⟩

theorem Half.ofStream_after_WF (e : Exp) (h : Half) (hw : h.WF e) (c : Bytes) :
    (Half.ofStream (h.abs.after c)).WF e := by
  refine ⟨hw.1, ?_⟩
  show (h.index + c.length) % h.key.length < e.klen
  rw [hw.1]; exact Nat.mod_lt _ (Nat.zero_lt_of_lt hw.2)

@[simp] theorem Half.ofStream_after_key (s : Stream) (c : Bytes) : (Half.ofStream (s.after c)).key = s.key := rfl

theorem Half.encrypt_eq (e : Exp) (h : Half) (hw : h.WF e) (xs : Bytes) :
    h.encrypt e xs = .ok (Half.ofStream (h.abs.encrypt xs).1, (h.abs.encrypt xs).2) := by
  rw [Half.encrypt_eq_runSteps, encRun_eq _ h xs hw.inv hw.key_length.symm]
  simp only [Stream.encrypt, Stream.after, Half.abs, Half.ofStream, Spec.recEnc_length, hw.key_length]

theorem Half.decrypt_eq (e : Exp) (h : Half) (hw : h.WF e) (cs : Bytes) :
    h.decrypt e cs = .ok (Half.ofStream (h.abs.decrypt cs).1, (h.abs.decrypt cs).2) := by
  rw [Half.decrypt_eq_runSteps, decRun_eq _ h cs hw.inv hw.key_length.symm]
  simp only [Stream.decrypt, Stream.after, Half.abs, Half.ofStream, hw.key_length]

/-- several calls are one call on the concatenation (`runChunks_flatten`), in closed form -/
theorem Half.runChunks_encrypt_eq (e : Exp) (h : Half) (hw : h.WF e) (chunks : List Bytes) :
    runChunks (Half.encrypt e) h chunks =
      .ok (Half.ofStream (h.abs.encrypt chunks.flatten).1, (h.abs.encrypt chunks.flatten).2) :=
  (runChunks_flatten _ h chunks).trans (Half.encrypt_eq e h hw _)

theorem Half.runChunks_decrypt_eq (e : Exp) (h : Half) (hw : h.WF e) (chunks : List Bytes) :
    runChunks (Half.decrypt e) h chunks =
      .ok (Half.ofStream (h.abs.decrypt chunks.flatten).1, (h.abs.decrypt chunks.flatten).2) :=
  (runChunks_flatten _ h chunks).trans (Half.decrypt_eq e h hw _)

theorem parseServerHeader_eq (p : Bytes) (h : p.length = 4) : parseServerHeader p = .ok (Spec.headerOf p) := by
  match p, h with
  | [b0, b1, b2, b3], _ => simp [parseServerHeader, Spec.headerOf, ofBE, ofLE]

theorem parseClientHeader_eq (p : Bytes) (h : p.length = 6) : parseClientHeader p = .ok (Spec.headerOf p) := by
  match p, h with
  | [b0, b1, b2, b3, b4, b5], _ => simp [parseClientHeader, Spec.headerOf, ofBE, ofLE]

theorem Half.decryptServerHeader_eq (e : Exp) (h : Half) (hw : h.WF e) (wire : Bytes) (hl : wire.length = 4) :
    h.decryptServerHeader e wire =
      .ok (Half.ofStream (h.abs.decrypt wire).1, Spec.headerOf (h.abs.decrypt wire).2) := by
  simp only [Half.decryptServerHeader, Half.decrypt_eq e h hw, Out.bind_ok,
    parseServerHeader_eq _ ((Spec.Stream.decrypt_length _ _).trans hl), Out.pure_eq]

theorem Half.decryptClientHeader_eq (e : Exp) (h : Half) (hw : h.WF e) (wire : Bytes) (hl : wire.length = 6) :
    h.decryptClientHeader e wire =
      .ok (Half.ofStream (h.abs.decrypt wire).1, Spec.headerOf (h.abs.decrypt wire).2) := by
  simp only [Half.decryptClientHeader, Half.decrypt_eq e h hw, Out.bind_ok,
    parseClientHeader_eq _ ((Spec.Stream.decrypt_length _ _).trans hl), Out.pure_eq]

/-- the three fixed-size read wrappers at once (`readThen`, Lemmas/Facade): if the typed decrypter `f h`
    refines `c.decrypt` on `n` bytes (`mk` rebuilds the Spec ciphers around the new state, `P` is the
    invariant), the wrapper refines `c.readHeader n` -/
theorem readThen_refines {σ} [DecidableEq σ] (f : σ → Bytes → Out (σ × (Nat × Nat))) (h : σ) (n : Nat) (script : List REv)
    (c : Ciphers) (P : σ → Prop) (mk : σ → Ciphers) (hc : mk h = c) (hP : P h)
    (hdec : ∀ w, w.length = n →
      ∃ h', f h w = .ok (h', Spec.headerOf (c.decrypt w).2) ∧ P h' ∧ mk h' = (c.decrypt w).1) :
    ∃ r, readThen n f h script = .ok r ∧ P r.state ∧ c.readHeader n script = (mk r.state, rdOut h script r) := by
  unfold Ciphers.readHeader
  cases hre : readExact script n [] with
  | mk res rest =>
    cases res with
    | error k => exact ⟨_, readThen_error hre, hP, by simp [rdOut, Spec.consumed, hc]⟩
    | ok wire =>
      obtain ⟨h', h1, h2, h3⟩ := hdec wire (readExact_length _ _ _ _ hre)
      exact ⟨_, by rw [readThen_ok hre, h1]; rfl, h2, by simp only [h3, rdOut, Spec.consumed]⟩

/-- what a write wrapper reports is `Spec.emit` of the ciphertext, for either write op (`emit` looks at the
    script only, not at `size` / `opcode`; `wrOut` not at the state) -/
theorem wrOut_writeAll {σ} (st : σ) (s o : Nat) (script : List WEv) (c : Bytes) :
    wrOut (⟨st, (writeAll script c []).1, (writeAll script c []).2⟩ : IoRes σ Unit Bytes) =
      Spec.emit (.writeServer s o script) c ∧
    wrOut (⟨st, (writeAll script c []).1, (writeAll script c []).2⟩ : IoRes σ Unit Bytes) =
      Spec.emit (.writeClient s o script) c := by
  have : ∀ x : Except IoKind Unit × Bytes, wrOut (⟨st, x.1, x.2⟩ : IoRes σ Unit Bytes) =
      match x with
      | (.ok _, sink) => .writeOk sink
      | (.error k, sink) => .writeErr k sink := by
    rintro ⟨res, sink⟩; cases res <;> rfl
  exact ⟨this _, this _⟩

theorem Rc4.xor_stream_eq (r : Rc4) (xs : Bytes) :
    xorBytes xs (Rc4.stream xs.length r) = (r.abs.crypt xs).2 := by
  simp only [Spec.Rc4.crypt, ← Rc4.abs_stream, xorBytes, List.zipWith_map_right, UInt8.ofNat_toNat]

/-- `Rc4.apply_eq` with the output in Spec terms -/
theorem Rc4.apply_eq_crypt (r : Rc4) (h : r.Inv) (xs : Bytes) :
    r.apply xs = .ok (Rc4.advance xs.length r, (r.abs.crypt xs).2) := by
  rw [Rc4.apply_eq r h, Rc4.xor_stream_eq]

theorem Rc4.abs_crypt_fst (r : Rc4) (xs : Bytes) : (r.abs.crypt xs).1 = (Rc4.advance xs.length r).abs :=
  (Rc4.abs_advance xs.length r).symm

theorem parseSmall_eq (p : Bytes) (h : p.length = 4) : parseSmall p = .ok (Spec.headerOf p) := by
  match p, h with
  | [b0, b1, b2, b3], _ => simp [parseSmall, Spec.headerOf, ofBE, ofLE]

theorem parseLarge_eq (p : Bytes) (h : p.length = 5) : parseLarge p = .ok (Spec.largeHeaderOf p) := by
  match p, h with
  | [b0, b1, b2, b3, b4], _ =>
    simp [parseLarge, Spec.largeHeaderOf, ofBE, ofLE, List.modifyHead]
    omega

theorem WServerEnc.encryptServerHeader_eq (h : WServerEnc) (hi : h.rc4.Inv) (size op : Nat) :
    h.encryptServerHeader size op =
      .ok (⟨Rc4.advance (wrathServerHeaderBytes size op).length h.rc4,
            (h.rc4.abs.crypt (wrathServerHeaderBytes size op)).2 ++
              h.serverHeader.drop (h.rc4.abs.crypt (wrathServerHeaderBytes size op)).2.length⟩,
           (h.rc4.abs.crypt (wrathServerHeaderBytes size op)).2) := by
  simp only [WServerEnc.encryptServerHeader, Rc4.apply_eq_crypt _ hi, Out.bind_ok, Out.pure_eq]

theorem wServerDecryptHeader_eq (r : Rc4) (hi : r.Inv) (wire : Bytes) (hl : wire.length = 6) :
    wServerDecryptHeader r wire = .ok (Rc4.advance wire.length r, Spec.headerOf (r.abs.crypt wire).2) := by
  simp only [wServerDecryptHeader, Rc4.apply_eq_crypt _ hi, Out.bind_ok, Out.pure_eq,
    parseClientHeader_eq _ ((Spec.Rc4.crypt_length _ _).trans hl)]

theorem WClientDec.attempt_eq (h : WClientDec) (hi : h.rc4.Inv) (wire : Bytes) (hl : wire.length = 4) :
    h.attempt wire =
      .ok (if Spec.isLarge (h.rc4.abs.crypt wire).2
           then (⟨Rc4.advance wire.length h.rc4, (h.rc4.abs.crypt wire).2⟩, .additionalByteRequired)
           else (⟨Rc4.advance wire.length h.rc4, h.header⟩,
                 .header (Spec.headerOf (h.rc4.abs.crypt wire).2).1 (Spec.headerOf (h.rc4.abs.crypt wire).2).2)) := by
  simp only [WClientDec.attempt, Rc4.apply_eq_crypt _ hi, Out.bind_ok]
  have hp := (Spec.Rc4.crypt_length h.rc4.abs wire).trans hl
  generalize (h.rc4.abs.crypt wire).2 = p at hp
  match p, hp with
  | [b0, b1, b2, b3], _ =>
    simp only [Spec.isLarge, List.headD_cons]
    by_cases hlg : largeHeader b0 = true
    · simp only [hlg, if_true, Out.pure_eq]
    · simp only [hlg, Bool.false_eq_true, if_false, parseSmall_eq [b0, b1, b2, b3] rfl, Out.bind_ok, Out.pure_eq]

theorem WClientDec.decryptLarge_eq (h : WClientDec) (hi : h.rc4.Inv) (hh : h.header.length = 4) (b : UInt8) :
    h.decryptLarge b =
      .ok (⟨Rc4.advance 1 h.rc4, h.header⟩, Spec.largeHeaderOf (h.header ++ (h.rc4.abs.crypt [b]).2)) := by
  have hl : (h.header ++ (h.rc4.abs.crypt [b]).2).length = 5 := by
    rw [List.length_append, hh, Spec.Rc4.crypt_length]; rfl
  simp only [WClientDec.decryptLarge, Rc4.apply_eq_crypt _ hi, Out.bind_ok, parseLarge_eq _ hl, Out.pure_eq,
    List.length_cons, List.length_nil]

theorem list_length_one (l : Bytes) (h : l.length = 1) : [l.headD 0] = l := by
  match l, h with
  | [a], _ => rfl

/-- four PRGA steps move `i`: the state after a failed fifth-byte read is not the state before -/
theorem Rc4.advance_four_ne (r : Rc4) : Rc4.advance 4 r ≠ r := by
  intro h
  have hi : (Rc4.advance 4 r).i = r.i + 1 + 1 + 1 + 1 := rfl
  rw [h] at hi
  have := congrArg UInt8.toNat hi
  simp at this
  omega

/-- the client's variable-length read wrapper refines `Spec.wrathReadServer`: four bytes, `attempt`, and
    for a long header a fifth byte, whose failure leaves the state after the first four -/
theorem WClientDec.readServerHeader_refines (en : Spec.Rc4) (h : WClientDec) (hi : h.rc4.Inv)
    (hh : h.header.length = 4) (script : List REv) :
    ∃ r, h.readServerHeader script = .ok r ∧ r.state.rc4.Inv ∧ r.state.header.length = 4 ∧
      Spec.wrathReadServer en h.rc4.abs h.header script =
        (.wcli en r.state.rc4.abs r.state.header, rdOut h script r) := by
  unfold WClientDec.readServerHeader Spec.wrathReadServer
  cases hre : readExact script 4 [] with
  | mk res rest =>
    cases res with
    | error k => exact ⟨_, rfl, hi, hh, by simp [rdOut, Spec.consumed]⟩
    | ok wire =>
      have hl := readExact_length _ _ _ _ hre
      have hp : (h.rc4.abs.crypt wire).2.length = 4 := (Spec.Rc4.crypt_length _ _).trans hl
      have hi4 := Rc4.advance_inv wire.length _ hi
      simp only [WClientDec.attempt_eq h hi wire hl, Out.bind_ok]
      by_cases hlg : Spec.isLarge (h.rc4.abs.crypt wire).2 = true
      · simp only [hlg, if_true, Bool.not_true, Bool.false_eq_true, if_false]
        cases hre2 : readExact rest 1 [] with
        | mk res2 rest2 =>
          cases res2 with
          | error k =>
            have hne : (⟨Rc4.advance wire.length h.rc4, (h.rc4.abs.crypt wire).2⟩ : WClientDec) ≠ h := fun heq =>
              Rc4.advance_four_ne _ (hl ▸ congrArg WClientDec.rc4 heq)
            exact ⟨_, rfl, hi4, hp, by simp only [rdOut, Spec.consumed, Rc4.abs_crypt_fst, hne, decide_false]⟩
          | ok fifth =>
            have hl2 := readExact_length _ _ _ _ hre2
            simp only [WClientDec.decryptLarge_eq ⟨_, _⟩ hi4 hp, Out.bind_ok, Out.pure_eq, list_length_one fifth hl2]
            exact ⟨_, rfl, Rc4.advance_inv _ _ hi4, hp, by simp only [rdOut, Spec.consumed, Rc4.abs_crypt_fst, hl2]⟩
      · simp only [hlg, Bool.false_eq_true, if_false, Bool.not_false, if_true, Out.pure_eq]
        exact ⟨_, rfl, hi4, hh, by simp only [rdOut, Spec.consumed, Rc4.abs_crypt_fst]⟩

end WowSrp
