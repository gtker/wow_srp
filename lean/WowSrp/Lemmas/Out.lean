/-
Reading the control shapes every entry point of the model is made of: a `do` block in `Out`
that ends in `.ok` (so every step returned), the final `if computed != presented` comparison, and
the one panic behind a test. Core Lean only.
-/
import WowSrp.Model.Basic
namespace WowSrp

theorem Out.bind_assoc {α β γ : Type} (x : Out α) (f : α → Out β) (g : β → Out γ) :
    x >>= f >>= g = x >>= fun a => f a >>= g := by
  cases x <;> rfl

theorem Out.bind_eq_ok {α β : Type} {x : Out α} {f : α → Out β} {b : β} :
    (x >>= f) = .ok b ↔ ∃ a, x = .ok a ∧ f a = .ok b := by
  cases x with
  | ok a => exact ⟨fun h => ⟨a, rfl, h⟩, by rintro ⟨_, ⟨⟩, h⟩; exact h⟩
  | panic p => exact ⟨(nomatch ·), by rintro ⟨_, ⟨⟩, _⟩⟩

/-- the Rust `if a != b { Err } else { Ok }` as a decision on `a = b` -/
theorem ite_bne {α β : Type} [BEq α] [LawfulBEq α] [DecidableEq α] (a b : α) (x y : β) :
    (if (a != b) = true then x else y) = if a = b then y else x := by
  by_cases h : a = b
  · rw [if_pos h, if_neg (by rw [h, bne_self_eq_false]; exact Bool.false_ne_true)]
  · rw [if_neg h, if_pos (bne_iff_ne.2 h)]

/-- the same read from the side of the second value (world login compares `computed != presented`) -/
theorem ite_bne_comm {α β : Type} [BEq α] [LawfulBEq α] [DecidableEq α] (a b : α) (x y : β) :
    (if (a != b) = true then x else y) = if b = a then y else x := by
  rw [ite_bne]; exact ite_congr (propext eq_comm) (fun _ => rfl) (fun _ => rfl)

theorem Out.ite_panic_iff {α : Type} {c : Prop} [Decidable c] {s : String} {v : α} :
    (∃ p, (if c then Out.panic s else .ok v) = .panic p) ↔ c := by
  by_cases hc : c
  · rw [if_pos hc]; exact ⟨fun _ => hc, fun _ => ⟨s, rfl⟩⟩
  · rw [if_neg hc]; exact ⟨fun ⟨_, h⟩ => (nomatch h), fun h => absurd h hc⟩

theorem Except.ite_eq_ok {ε α : Type} {p : Prop} [Decidable p] {a b : α} {e : ε} :
    (if p then Except.ok a else Except.error e) = Except.ok b ↔ p ∧ b = a := by
  by_cases h : p
  · rw [if_pos h]; exact ⟨fun e => ⟨h, (Except.ok.inj e).symm⟩, fun e => e.2 ▸ rfl⟩
  · rw [if_neg h]; exact ⟨(nomatch ·), fun e => absurd e.1 h⟩

end WowSrp
