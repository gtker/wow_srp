/-
Refinement of the textbook RC4 (`Spec/Rc4.lean`, naturals mod 256, lists) by the model
(`Model/Wrath.lean`, `u8` wrapping arithmetic, arrays, panics): the abstraction `Rc4.abs`, one PRGA step,
`n` steps, the key schedule, the Wrath generator. Before that, what the textbook functions satisfy by
themselves (`Spec.Rc4.keystream_length`, `keystream_add`, `advance_add`). Core Lean only.
-/
import WowSrp.Lemmas.Rc4
import WowSrp.Spec.Rc4
namespace WowSrp

theorem Spec.Rc4.keystream_length (n : Nat) (st : Spec.Rc4) : (Spec.Rc4.keystream n st).length = n := by
  induction n generalizing st with
  | zero => rfl
  | succ n ih => simp [Spec.Rc4.keystream, ih]

theorem Spec.Rc4.advance_add (m n : Nat) (st : Spec.Rc4) :
    Spec.Rc4.advance (m + n) st = Spec.Rc4.advance n (Spec.Rc4.advance m st) := by
  induction m generalizing st with
  | zero => simp [Spec.Rc4.advance]
  | succ m ih => rw [Nat.add_right_comm]; exact ih _

theorem Spec.Rc4.keystream_add (m n : Nat) (st : Spec.Rc4) :
    Spec.Rc4.keystream (m + n) st = Spec.Rc4.keystream m st ++ Spec.Rc4.keystream n (Spec.Rc4.advance m st) := by
  induction m generalizing st with
  | zero => simp [Spec.Rc4.keystream, Spec.Rc4.advance]
  | succ m ih =>
    rw [Nat.add_right_comm]
    simp only [Spec.Rc4.keystream, Spec.Rc4.advance, ih, List.cons_append]

/-- the table read as numbers -/
def absS (s : Array UInt8) : List Nat := s.toList.map UInt8.toNat

def Rc4.abs (r : Rc4) : Spec.Rc4 := ⟨absS r.state, r.i.toNat, r.j.toNat⟩

theorem list_map_toNat_get (l : List UInt8) (a : Nat) : (l.map UInt8.toNat)[a]! = l[a]!.toNat := by
  by_cases h : a < l.length
  · simp [h]
  · have : (default : UInt8).toNat = 0 := rfl
    simp [h, this]

theorem absS_get (s : Array UInt8) (a : Nat) : (absS s)[a]! = s[a]!.toNat := by
  rw [absS, list_map_toNat_get]
  by_cases h : a < s.size
  · simp [h]
  · simp [h]

theorem absS_swap (s : Array UInt8) (a b : Nat) : absS (swapPure s a b) = Spec.swap (absS s) a b := by
  simp only [Spec.swap, absS_get]
  simp [absS, swapPure, List.map_set]

theorem absS_length (s : Array UInt8) : (absS s).length = s.size := by simp [absS]

/-- one PRGA step: model (pure form) and Spec agree, `u8` wrap = `mod 256` -/
theorem Rc4.abs_next (r : Rc4) : r.next.abs = r.abs.prga.1 ∧ r.out.toNat = r.abs.prga.2 := by
  have hi : (r.i + 1).toNat = (r.i.toNat + 1) % 256 := by simp [UInt8.toNat_add]
  have hj : (r.j + r.state[(r.i.toNat + 1) % 256]!).toNat = (r.j.toNat + (absS r.state)[(r.i.toNat + 1) % 256]!) % 256 := by
    rw [UInt8.toNat_add, absS_get]
  constructor
  · simp only [Rc4.abs, Rc4.next, Spec.Rc4.prga, absS_swap, hi, hj]
  · simp only [Rc4.abs, Rc4.out, Rc4.next, Spec.Rc4.prga, hi, ← absS_swap, absS_get, UInt8.toNat_add]

theorem Rc4.abs_advance (n : Nat) (r : Rc4) : (Rc4.advance n r).abs = Spec.Rc4.advance n r.abs := by
  induction n generalizing r with
  | zero => rfl
  | succ n ih => simp only [Rc4.advance, Spec.Rc4.advance, ih, r.abs_next.1]

theorem Rc4.abs_stream (n : Nat) (r : Rc4) : (Rc4.stream n r).map UInt8.toNat = Spec.Rc4.keystream n r.abs := by
  induction n generalizing r with
  | zero => rfl
  | succ n ih => simp only [Rc4.stream, Spec.Rc4.keystream, List.map_cons, ih, r.abs_next.1, r.abs_next.2]

theorem ksaPure_abs (key : Bytes) (fuel i : Nat) (s : Array UInt8) (j : UInt8) :
    absS (ksaPure key fuel i s j) =
      ((List.range' i fuel).foldl (Spec.ksaStep (key.map UInt8.toNat)) (absS s, j.toNat)).1 := by
  induction fuel generalizing i s j with
  | zero => rfl
  | succ n ih =>
    simp only [ksaPure, List.range'_succ, List.foldl_cons, ih]
    have hj : (j + s[i]! + key[i % key.length]!).toNat =
        (j.toNat + (absS s)[i]! + (key.map UInt8.toNat)[i % (key.map UInt8.toNat).length]!) % 256 := by
      rw [list_map_toNat_get, absS_get, List.length_map, UInt8.toNat_add, UInt8.toNat_add]
      omega
    simp only [Spec.ksaStep, ← hj, absS_swap]

theorem absS_rc4Init : absS rc4Init = List.range 256 := by
  simp only [absS, rc4Init, Array.toList_map, Array.toList_range, List.map_map]
  refine List.ext_getElem (by simp) fun i h _ => ?_
  simp only [List.length_map, List.length_range] at h
  simp only [List.getElem_map, List.getElem_range, Function.comp, UInt8.toNat_ofNat']
  exact Nat.mod_eq_of_lt h

theorem Rc4.keyed_abs (key : Bytes) (hk : key ≠ []) : (Rc4.keyed key).abs = Spec.Rc4.init (key.map UInt8.toNat) := by
  simp only [Rc4.abs, Rc4.keyed, Spec.Rc4.init, Spec.ksa, ksaTable, if_neg hk, ksaPure_abs, absS_rc4Init, List.range_eq_range']
  rfl

/-- a Wrath generator is the Spec's RC4 keyed with the HMAC (20 bytes for a well-formed `Crypto`, so not
    empty), 1024 bytes on -/
theorem wrathGen_abs (C : Crypto) (hC : C.WF) (key K : Bytes) :
    (wrathGen C key K).abs = Spec.Rc4.advance 1024 (Spec.Rc4.init ((C.hmac key K).map UInt8.toNat)) := by
  rw [wrathGen_def, Rc4.abs_advance,
    Rc4.keyed_abs _ (List.ne_nil_of_length_pos (by rw [hC.hmac_len]; decide))]
  rfl

end WowSrp
