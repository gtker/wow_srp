/-
Every delegating method of the combined objects, and every Read / Write wrapper but one, as what it is by
definition: the inner call with something put around its result (`Out.mapOk`). A fixed-length Read wrapper is
`readThen n f` (`read_exact` of `n` bytes, then the typed call `f`); a Write wrapper is the typed helper, then
`write_all`. The one left out is the Wrath client's `read_and_decrypt_server_header`, which reads twice (four bytes,
then a fifth if `attempt` asks for it): Props/C11 states what it returns, outcome by outcome of the two reads.
The equations are `rfl` (`HeaderCrypto.decryptClientHeader_eq` apart); they exist so that proofs rewrite with them
instead of unfolding. `by rfl`, not `:= rfl`: for the term form Lean also tries to register the equation as a
`@[defeq]` rewrite rule, which means checking it a second time, and that check is slow on these terms.
Core Lean only.
-/
import WowSrp.Lemmas.MapOk
import WowSrp.Model.Wrath
namespace WowSrp

theorem Out.mapOk_io_eq_ok_iff {τ σ α γ : Type} (y : Out (IoRes τ α γ)) (upd : τ → σ) (R : IoRes σ α γ) :
    y.mapOk (fun r => (⟨upd r.state, r.result, r.rest⟩ : IoRes σ α γ)) = .ok R ↔
      ∃ r, y = .ok r ∧ R.state = upd r.state ∧ R.result = r.result ∧ R.rest = r.rest := by
  rw [Out.mapOk_eq_ok_iff]
  exact ⟨fun ⟨r, h1, h2⟩ => ⟨r, h1, by rw [h2], by rw [h2], by rw [h2]⟩,
    fun ⟨r, h1, h2, h3, h4⟩ => ⟨r, h1, by cases R; simp only at h2 h3 h4; rw [h2, h3, h4]⟩⟩

section
variable (e : Exp) (hc : HeaderCrypto)

theorem HeaderCrypto.encryptData_eq (d : Bytes) : hc.encryptData e d =
    (hc.encrypt.encrypt e d).mapOk fun p => ({ hc with encrypt := p.1 }, p.2) := by rfl
theorem HeaderCrypto.decryptData_eq (d : Bytes) : hc.decryptData e d =
    (hc.decrypt.decrypt e d).mapOk fun p => ({ hc with decrypt := p.1 }, p.2) := by rfl
theorem HeaderCrypto.encryptServerHeader_eq (size opcode : Nat) : hc.encryptServerHeader e size opcode =
    (hc.encrypt.encryptServerHeader e size opcode).mapOk fun p => ({ hc with encrypt := p.1 }, p.2) := by rfl
theorem HeaderCrypto.encryptClientHeader_eq (size opcode : Nat) : hc.encryptClientHeader e size opcode =
    (hc.encrypt.encryptClientHeader e size opcode).mapOk fun p => ({ hc with encrypt := p.1 }, p.2) := by rfl
theorem HeaderCrypto.decryptServerHeader_eq (d : Bytes) : hc.decryptServerHeader e d =
    (hc.decrypt.decryptServerHeader e d).mapOk fun p => ({ hc with decrypt := p.1 }, p.2) := by rfl
/-- Vanilla's `HeaderCrypto::decrypt_client_header` is coded separately (facade `decrypt`, then its own
    parse); it agrees with the half's all the same -/
theorem HeaderCrypto.decryptClientHeader_eq (d : Bytes) : hc.decryptClientHeader e d =
    (hc.decrypt.decryptClientHeader e d).mapOk fun p => ({ hc with decrypt := p.1 }, p.2) := by
  cases e with
  | tbc => rfl
  | vanilla =>
    unfold HeaderCrypto.decryptClientHeader HeaderCrypto.decryptData Half.decryptClientHeader
    cases hc.decrypt.decrypt .vanilla d with
    | panic p => rfl
    | ok r => cases h : parseClientHeader r.2 <;> simp [Out.mapOk, h]
theorem HeaderCrypto.readServerHeader_eq (script : List REv) : hc.readServerHeader e script =
    (hc.decrypt.readServerHeader e script).mapOk fun r => ⟨{ hc with decrypt := r.state }, r.result, r.rest⟩ := by rfl
theorem HeaderCrypto.readClientHeader_eq (script : List REv) : hc.readClientHeader e script =
    (hc.decrypt.readClientHeader e script).mapOk fun r => ⟨{ hc with decrypt := r.state }, r.result, r.rest⟩ := by rfl
theorem HeaderCrypto.writeServerHeader_eq (size opcode : Nat) (script : List WEv) :
    hc.writeServerHeader e size opcode script =
      (hc.encrypt.writeServerHeader e size opcode script).mapOk fun r =>
        ⟨{ hc with encrypt := r.state }, r.result, r.rest⟩ := by rfl
theorem HeaderCrypto.writeClientHeader_eq (size opcode : Nat) (script : List WEv) :
    hc.writeClientHeader e size opcode script =
      (hc.encrypt.writeClientHeader e size opcode script).mapOk fun r =>
        ⟨{ hc with encrypt := r.state }, r.result, r.rest⟩ := by rfl
end

section
variable (c : WClientCrypto)

theorem WClientCrypto.encryptData_eq (d : Bytes) : c.encryptData d =
    (c.encrypt.apply d).mapOk fun p => ({ c with encrypt := p.1 }, p.2) := by rfl
theorem WClientCrypto.decryptData_eq (d : Bytes) : c.decryptData d =
    (c.decrypt.decrypt d).mapOk fun p => ({ c with decrypt := p.1 }, p.2) := by rfl
theorem WClientCrypto.encryptClientHeader_eq (size opcode : Nat) : c.encryptClientHeader size opcode =
    (wClientEncryptHeader c.encrypt size opcode).mapOk fun p => ({ c with encrypt := p.1 }, p.2) := by rfl
theorem WClientCrypto.writeClientHeader_eq (size opcode : Nat) (script : List WEv) :
    c.writeClientHeader size opcode script =
      (wClientWriteHeader c.encrypt size opcode script).mapOk fun r =>
        ⟨{ c with encrypt := r.state }, r.result, r.rest⟩ := by rfl
theorem WClientCrypto.attempt_eq (buf : Bytes) : c.attempt buf =
    (c.decrypt.attempt buf).mapOk fun p => ({ c with decrypt := p.1 }, p.2) := by rfl
theorem WClientCrypto.decryptLarge_eq (byte : UInt8) : c.decryptLarge byte =
    (c.decrypt.decryptLarge byte).mapOk fun p => ({ c with decrypt := p.1 }, p.2) := by rfl
theorem WClientCrypto.readServerHeader_eq (script : List REv) : c.readServerHeader script =
    (c.decrypt.readServerHeader script).mapOk fun r => ⟨{ c with decrypt := r.state }, r.result, r.rest⟩ := by rfl
end

section
variable (s : WServerCrypto)

theorem WServerCrypto.encryptData_eq (d : Bytes) : s.encryptData d =
    (s.encrypt.encrypt d).mapOk fun p => ({ s with encrypt := p.1 }, p.2) := by rfl
theorem WServerCrypto.decryptData_eq (d : Bytes) : s.decryptData d =
    (s.decrypt.apply d).mapOk fun p => ({ s with decrypt := p.1 }, p.2) := by rfl
theorem WServerCrypto.encryptServerHeader_eq (size opcode : Nat) : s.encryptServerHeader size opcode =
    (s.encrypt.encryptServerHeader size opcode).mapOk fun p => ({ s with encrypt := p.1 }, p.2) := by rfl
theorem WServerCrypto.writeServerHeader_eq (size opcode : Nat) (script : List WEv) :
    s.writeServerHeader size opcode script =
      (s.encrypt.writeServerHeader size opcode script).mapOk fun r =>
        ⟨{ s with encrypt := r.state }, r.result, r.rest⟩ := by rfl
theorem WServerCrypto.decryptClientHeader_eq (d : Bytes) : s.decryptClientHeader d =
    (wServerDecryptHeader s.decrypt d).mapOk fun p => ({ s with decrypt := p.1 }, p.2) := by rfl
theorem WServerCrypto.readClientHeader_eq (script : List REv) : s.readClientHeader script =
    (wServerReadHeader s.decrypt script).mapOk fun r => ⟨{ s with decrypt := r.state }, r.result, r.rest⟩ := by rfl
end

/-- the shape of every fixed-length read wrapper: `read_exact` into a local buffer; on failure hand the
    error on and leave the cipher alone, otherwise make the typed call on the buffer -/
def readThen {σ α : Type} (n : Nat) (f : σ → Bytes → Out (σ × α)) (h : σ) (script : List REv) :
    Out (IoRes σ α (List REv)) :=
  match readExact script n [] with
  | (.error k, rest) => .ok ⟨h, .error k, rest⟩
  | (.ok buf, rest) => (f h buf).mapOk fun p => ⟨p.1, .ok p.2, rest⟩

theorem Half.readServerHeader_eq_readThen (e : Exp) (h : Half) (script : List REv) :
    h.readServerHeader e script = readThen 4 (Half.decryptServerHeader e) h script := by rfl
theorem Half.readClientHeader_eq_readThen (e : Exp) (h : Half) (script : List REv) :
    h.readClientHeader e script = readThen 6 (Half.decryptClientHeader e) h script := by rfl
theorem wServerReadHeader_eq_readThen (r : Rc4) (script : List REv) :
    wServerReadHeader r script = readThen 6 wServerDecryptHeader r script := by rfl

section readThen
variable {σ α : Type} {n : Nat} {f : σ → Bytes → Out (σ × α)} {h : σ} {script rest : List REv}

theorem readThen_error {k : IoKind} (hr : readExact script n [] = (.error k, rest)) :
    readThen n f h script = .ok ⟨h, .error k, rest⟩ := by simp only [readThen, hr]

theorem readThen_ok {buf : Bytes} (hr : readExact script n [] = (.ok buf, rest)) :
    readThen n f h script = (f h buf).mapOk fun p => ⟨p.1, .ok p.2, rest⟩ := by simp only [readThen, hr]
end readThen

/-! the four write wrappers: typed helper into a local buffer, then `write_all`, its result handed on -/
theorem Half.writeServerHeader_eq (e : Exp) (h : Half) (size opcode : Nat) (script : List WEv) :
    h.writeServerHeader e size opcode script = (h.encryptServerHeader e size opcode).mapOk fun p =>
      ⟨p.1, (writeAll script p.2 []).1, (writeAll script p.2 []).2⟩ := by rfl
theorem Half.writeClientHeader_eq (e : Exp) (h : Half) (size opcode : Nat) (script : List WEv) :
    h.writeClientHeader e size opcode script = (h.encryptClientHeader e size opcode).mapOk fun p =>
      ⟨p.1, (writeAll script p.2 []).1, (writeAll script p.2 []).2⟩ := by rfl
theorem WServerEnc.writeServerHeader_eq (h : WServerEnc) (size opcode : Nat) (script : List WEv) :
    h.writeServerHeader size opcode script = (h.encryptServerHeader size opcode).mapOk fun p =>
      ⟨p.1, (writeAll script p.2 []).1, (writeAll script p.2 []).2⟩ := by rfl
theorem wClientWriteHeader_eq (r : Rc4) (size opcode : Nat) (script : List WEv) :
    wClientWriteHeader r size opcode script = (wClientEncryptHeader r size opcode).mapOk fun p =>
      ⟨p.1, (writeAll script p.2 []).1, (writeAll script p.2 []).2⟩ := by rfl

end WowSrp
