/- GENERATED by tools/gen_pratt.py from data/pratt_N.json. Do not edit.
   Pratt certificate of N as a table: `(p, a, prime factors of p - 1)`, larger primes first, so that the
   factors of every row are rows further down. -/
import WowSrp.Lemmas.PrattNode
namespace WowSrp

def prattN : List (Nat × Nat × List Nat) := [
  (62100066509156017342069496140902949863249758336000796928566441170293728648119, 7, [2, 31050033254578008671034748070451474931624879168000398464283220585146864324059]),
  (31050033254578008671034748070451474931624879168000398464283220585146864324059, 2, [2, 11, 23, 73, 118574434367, 3110557453940813197, 2279079126837977412406933585396045119937459]),
  (2279079126837977412406933585396045119937459, 3, [2, 3, 7, 31, 11839, 28086973, 3345116454683, 1573682880936379]),
  (3110557453940813197, 2, [2, 3, 259213121161734433]),
  (259213121161734433, 10, [2, 3, 7, 11, 571, 226199, 271499]),
  (1573682880936379, 2, [2, 3, 43, 6099546050141]),
  (6099546050141, 2, [2, 5, 139, 2194081313]),
  (3345116454683, 2, [2, 311, 769, 6993499]),
  (118574434367, 5, [2, 59287217183]),
  (59287217183, 5, [2, 29643608591]),
  (29643608591, 7, [2, 5, 73, 40607683]),
  (2194081313, 3, [2, 6079, 11279]),
  (40607683, 3, [2, 3, 719, 9413]),
  (28086973, 5, [2, 3, 2340581]),
  (6993499, 2, [2, 3, 1165583]),
  (2340581, 2, [2, 5, 11, 10639]),
  (1165583, 5, [2, 11, 52981]),
  (271499, 2, [2, 29, 31, 151]),
  (226199, 7, [2, 7, 107, 151]),
  (52981, 2, [2, 3, 5, 883]),
  (11839, 3, [2, 3, 1973]),
  (11279, 7, [2, 5639]),
  (10639, 6, [2, 3, 197]),
  (9413, 3, [2, 13, 181]),
  (6079, 17, [2, 3, 1013]),
  (5639, 7, [2, 2819]),
  (2819, 2, [2, 1409]),
  (1973, 2, [2, 17, 29]),
  (1409, 3, [2, 11]),
  (1013, 3, [2, 11, 23]),
  (883, 2, [2, 3, 7]),
  (769, 11, [2, 3]),
  (719, 11, [2, 359]),
  (571, 3, [2, 3, 5, 19]),
  (359, 7, [2, 179]),
  (311, 17, [2, 5, 31]),
  (197, 2, [2, 7]),
  (181, 2, [2, 3, 5]),
  (179, 2, [2, 89]),
  (151, 6, [2, 3, 5]),
  (139, 2, [2, 3, 23]),
  (107, 2, [2, 53]),
  (89, 3, [2, 11]),
  (73, 5, [2, 3]),
  (53, 2, [2, 13]),
  (43, 3, [2, 3, 7]),
  (31, 3, [2, 3, 5]),
  (29, 2, [2, 7]),
  (23, 5, [2, 11]),
  (19, 2, [2, 3]),
  (17, 3, [2]),
  (13, 2, [2, 3]),
  (11, 2, [2, 5]),
  (7, 3, [2, 3]),
  (5, 2, [2]),
  (3, 2, [2]),
  (2, 1, [])]

theorem prattN_ok : prattTableOk prattN = true := by decide +kernel

end WowSrp
