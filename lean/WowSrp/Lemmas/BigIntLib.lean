/-
Helper lemmas for `Props/C19Backends.lean`: the arithmetic behind "num-bigint's magnitude power with a
sign fix-up" = "GMP's Euclidean residue of the integer power" = the shared `modpowVal`.
-/
import Mathlib.Algebra.Ring.Parity
import Mathlib.Algebra.Order.Ring.Int
import WowSrp.Lemmas.PowMod
import WowSrp.Model.BigIntLib
namespace WowSrp

/-- the Euclidean remainder of a negated natural number: `0` when the number is a multiple of `m`,
    else `m - (x % m)` (`Int.neg_emod` on casts) -/
theorem neg_natCast_emod (x m : Nat) (hm : 0 < m) :
    (-(x : Int)) % (m : Int) = if x % m = 0 then 0 else ((m - x % m : Nat) : Int) := by
  rw [Int.neg_emod, Int.natAbs_natCast, ← Int.natCast_emod,
    ← Int.ofNat_sub (Nat.le_of_lt (Nat.mod_lt x hm))]
  exact ite_congr (propext (Int.natCast_dvd_natCast.trans (Nat.dvd_iff_mod_eq_zero ..))) (fun _ => rfl)
    (fun _ => rfl)

/-- num-bigint's sign fix-up is the Euclidean residue: for a negative base and an odd exponent, the
    residue of the integer power is `m - (|base|^e % m)` when `|base|^e % m ≠ 0`, and `0` otherwise -/
theorem neg_base_odd_pow_emod (base : Int) (e m : Nat) (hm : 0 < m) (hb : base < 0) (he : e % 2 = 1) :
    (base ^ e) % (m : Int) =
      if base.natAbs ^ e % m = 0 then 0 else ((m - base.natAbs ^ e % m : Nat) : Int) := by
  have hbase : base = -((base.natAbs : Nat) : Int) := by omega
  conv_lhs => rw [hbase, (Nat.odd_iff.mpr he).neg_pow, ← Int.natCast_pow]
  exact neg_natCast_emod _ m hm

/-- non-negative base, or even exponent: the power is that of the magnitude -/
theorem no_sign_pow_emod (base : Int) (e m : Nat) (h : 0 ≤ base ∨ e % 2 = 0) :
    (base ^ e) % (m : Int) = ((base.natAbs ^ e % m : Nat) : Int) := by
  have hb : base ^ e = ((base.natAbs ^ e : Nat) : Int) := by
    rw [Int.natCast_pow]
    rcases h with h | h
    · rw [Int.natAbs_of_nonneg h]
    · rcases Int.natAbs_eq base with hb | hb
      · rw [← hb]
      · conv_lhs => rw [hb, (Nat.even_iff.mpr h).neg_pow]
  rw [hb, Int.natCast_emod]

theorem gmpPowm_eq_modpowVal (base : Int) (e m : Nat) (hm : 0 < m) :
    gmpPowm base e m = modpowVal base e m := by
  unfold gmpPowm
  rw [← modpowVal_spec base e m hm]
  exact Int.toNat_natCast _

/-- num-bigint's value (magnitude power, zero test, sign fix-up) is the shared definition's value: both
    are read as integers, where the shared one is the Euclidean residue (`modpowVal_spec`) -/
theorem numModpow_eq (base : Int) (e m : Nat) (hm : 0 < m) :
    numModpow base e m = .ok (modpowVal base e m) := by
  have hm0 : ¬ m = 0 := by omega
  have hv := modpowVal_spec base e m hm
  unfold numModpow numBigUintModpow
  rw [if_neg hm0, if_neg hm0, Out.bind_ok, powMod_spec]
  by_cases hneg : base < 0 ∧ e % 2 = 1
  · rw [neg_base_odd_pow_emod base e m hm hneg.1 hneg.2] at hv
    split at hv <;> rename_i h0
    · rw [if_pos h0, Int.natCast_eq_zero.mp hv]
    · rw [if_neg h0, if_pos hneg, Int.ofNat_inj.mp hv]
  · rw [no_sign_pow_emod base e m (by omega)] at hv
    rw [if_neg hneg, ← Int.ofNat_inj.mp hv]
    split
    · next h0 => rw [h0]
    · rfl

end WowSrp
