/-
Output lengths of the executable hash instance `Crypto.real` (Model/Crypto.lean): SHA-1 and HMAC-SHA1
give 20 bytes, MD5 gives 16 — read off the final concatenation of big-endian (SHA-1) or little-endian (MD5) words.
-/
import WowSrp.Model.Crypto
namespace WowSrp

theorem Sha1.sha1_length (m : Bytes) : (Sha1.sha1 m).length = 20 := by
  simp [Sha1.sha1, Sha1.be]

theorem Md5.md5_length (m : Bytes) : (Md5.md5 m).length = 16 := by
  simp [Md5.md5, Md5.le]

theorem Crypto.real_WF : Crypto.real.WF where
  sha1_len := Sha1.sha1_length
  hmac_len := fun _ _ => Sha1.sha1_length _
  md5_len := Md5.md5_length

end WowSrp
