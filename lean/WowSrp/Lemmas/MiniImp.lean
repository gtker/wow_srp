/-
Generic facts about the deep embedding `Model/MiniImp.lean`, used by `Props/Source/Loops*.lean`: slot
lookup after a write, with the frame rule `Env.Has.set`; the judgment `Evals` (an expression evaluates
without a panic: side goals about translated expressions are terms, not runs of `simp`); and the
simulation relation `Sim` (both sides end normally in related states, or both panic) with its rules,
among them the loop rules `Sim.loopUp` / `Sim.loopDown` for any body that simulates one step of any model
recursion. At the end the one fact about a particular statement: `A[I] = A[I + 1]`, which both translated
shift loops consist of, does one `shiftStep` (`Lemmas/Shift.lean`). Core Lean only.
-/
import WowSrp.Model.MiniImp
import WowSrp.Lemmas.Shift
namespace WowSrp.MiniImp

/-- writing slot `i` of a slot list, padded with `d` when the list is shorter: what slot `j` holds afterwards -/
theorem getElem?_setPad {α} (l : List α) (i j : Nat) (v d : α) :
    (if i < l.length then l.set i v else l ++ List.replicate (i - l.length) d ++ [v])[j]?
      = if j = i then some v else (l[j]?).or (if j < i then some d else none) := by
  by_cases hj : j < l.length
  · rw [List.getElem?_eq_getElem hj (l := l), Option.some_or]
    split
    · simp only [List.getElem?_set, List.getElem?_eq_getElem hj, eq_comm (a := i)]
      split <;> simp [*]
    · have : j ≠ i := by omega
      rw [if_neg this, List.append_assoc, List.getElem?_append_left hj, List.getElem?_eq_getElem hj]
  · rw [List.getElem?_eq_none_iff.2 (Nat.le_of_not_lt hj), Option.none_or]
    split
    · have : j ≠ i := by omega
      rw [List.getElem?_set, if_neg this.symm, if_neg this, if_neg (by omega), List.getElem?_eq_none_iff.2 (by omega)]
    · rw [List.append_assoc, List.getElem?_append_right (by omega), List.getElem?_append, List.length_replicate,
        List.getElem?_replicate]
      by_cases h1 : j < i
      · rw [if_pos (by omega), if_pos (by omega), if_neg (by omega), if_pos h1]
      · by_cases h2 : j = i
        · subst h2; simp
        · rw [if_neg (by omega), if_neg h2, if_neg h1, List.getElem?_eq_none_iff.2 (by simp; omega)]

/-- writing cell `i` of an array of which the first `i` cells are known: the invariant of a loop that fills an array front to back is
    "`A.take i` is what the model has so far", with `A.length` fixed -/
theorem take_set_succ {α} (l : List α) (i : Nat) (v : α) (h : i < l.length) : (l.set i v).take (i + 1) = l.take i ++ [v] := by
  rw [List.take_add_one, List.take_set_of_le (Nat.le_refl i), List.getElem?_set_self h]; rfl

theorem vars_setVar_get (env : Env) (i v j : Nat) :
    (env.setVar i v).vars[j]? = if j = i then some v else (env.vars[j]?).or (if j < i then some 0 else none) :=
  getElem?_setPad env.vars i j v 0

theorem arrs_setArr_get (env : Env) (i j : Nat) (a : Bytes) :
    (env.setArr i a).arrs[j]? = if j = i then some a else (env.arrs[j]?).or (if j < i then some [] else none) :=
  getElem?_setPad env.arrs i j a []

@[simp] theorem arrs_setVar (env : Env) (i v : Nat) : (env.setVar i v).arrs = env.arrs := rfl
@[simp] theorem vars_setArr (env : Env) (i : Nat) (a : Bytes) : (env.setArr i a).vars = env.vars := rfl

/-- `setArr` when the shape of the array store is known -/
theorem arrs_setArr (env : Env) (i : Nat) (a : Bytes) :
    (env.setArr i a).arrs
      = if i < env.arrs.length then env.arrs.set i a else env.arrs ++ List.replicate (i - env.arrs.length) [] ++ [a] := rfl

theorem getVar_of (env : Env) (i v : Nat) (h : env.vars[i]? = some v) : env.getVar i = .ok v := by
  simp only [Env.getVar, h]

theorem getArr_of (env : Env) (i : Nat) (a : Bytes) (h : env.arrs[i]? = some a) : env.getArr i = .ok a := by
  simp only [Env.getArr, h]

abbrev Env.Has (e : Env) (i v : Nat) : Prop := e.vars[i]? = some v

theorem Env.Has.self {e : Env} {i v : Nat} : (e.setVar i v).Has i v := by
  rw [Env.Has, vars_setVar_get, if_pos rfl]

theorem Env.Has.set {e : Env} {i v j x : Nat} (h : e.Has j x) (hne : j ≠ i := by decide) : (e.setVar i v).Has j x := by
  rw [Env.Has, vars_setVar_get, if_neg hne, h, Option.some_or]

theorem Env.Has.setArr {e : Env} {i j x : Nat} {a : Bytes} (h : e.Has j x) : (e.setArr i a).Has j x := h

/-- `a` evaluates to `v` without a panic: the side conditions are the overflow, underflow, zero-divisor and bounds checks of the Rust -/
inductive Evals (e : Env) : Expr → Nat → Prop
  | var {i v} : e.Has i v → Evals e (.var i) v
  | lit {n} : Evals e (.lit n) n
  | add {w a b x y} : Evals e a x → Evals e b y → x + y < 2 ^ w → Evals e (.add w a b) (x + y)
  | mul {w a b x y} : Evals e a x → Evals e b y → x * y < 2 ^ w → Evals e (.mul w a b) (x * y)
  | sub {a b x y} : Evals e a x → Evals e b y → y ≤ x → Evals e (.sub a b) (x - y)
  | div {a b x y} : Evals e a x → Evals e b y → y ≠ 0 → Evals e (.div a b) (x / y)
  | rem {a b x y} : Evals e a x → Evals e b y → y ≠ 0 → Evals e (.rem a b) (x % y)
  | cast {w a x} : Evals e a x → Evals e (.cast w a) (x % 2 ^ w)
  | idx {arr i g k b} : e.arrs[arr]? = some g → Evals e i k → g[k]? = some b → Evals e (.idx arr i) b.toNat

theorem Evals.eval_eq {e : Env} {a : Expr} {v : Nat} (h : Evals e a v) : a.eval e = .ok v := by
  induction h <;> simp only [Expr.eval, Env.getVar, Env.getArr, Out.bind_ok, if_true, if_false, *]

@[simp] theorem loopUp_zero (f : Nat → Env → Out Env) (cur : Nat) (env : Env) : loopUp f 0 cur env = .ok env := rfl

@[simp] theorem loopDown_zero (f : Nat → Nat → Env → Out Env) (k top : Nat) (env : Env) : loopDown f 0 k top env = .ok env := rfl

theorem loopWhile_false (c : Env → Out Bool) (f : Env → Out Env) (fuel : Nat) (env : Env) (h : c env = .ok false) :
    loopWhile c f (fuel + 1) env = .ok env := by
  simp only [loopWhile, h]

theorem loopWhile_true_ok (c : Env → Out Bool) (f : Env → Out Env) (fuel : Nat) (env e : Env) (h : c env = .ok true)
    (hf : f env = .ok e) : loopWhile c f (fuel + 1) env = loopWhile c f fuel e := by
  simp only [loopWhile, h, hf]

theorem loopWhile_true_panic (c : Env → Out Bool) (f : Env → Out Env) (fuel : Nat) (env : Env) (p : String) (h : c env = .ok true)
    (hf : f env = .panic p) : loopWhile c f (fuel + 1) env = .panic p := by
  simp only [loopWhile, h, hf]

theorem exec_seq_ok {a b : Stmt} {env e : Env} (h : a.exec env = .ok e) : (Stmt.seq a b).exec env = b.exec e := by
  simp only [Stmt.exec, h]

theorem exec_seq_panic {a b : Stmt} {env : Env} {p : String} (h : a.exec env = .panic p) : (Stmt.seq a b).exec env = .panic p := by
  simp only [Stmt.exec, h]

theorem exec_set {x : Nat} {ex : Expr} {env : Env} {v : Nat} (h : Evals env ex v) :
    (Stmt.set x ex).exec env = .ok (env.setVar x v) := by
  simp only [Stmt.exec, h.eval_eq, Out.bind_ok]

theorem exec_store {arr : Nat} {i ex : Expr} {env : Env} {a : Bytes} {k v : Nat} (ha : env.arrs[arr]? = some a)
    (hi : Evals env i k) (hv : Evals env ex v) (hv2 : v < 256) (hk : k < a.length) :
    (Stmt.store arr i ex).exec env = .ok (env.setArr arr (a.set k (UInt8.ofNat v))) := by
  simp only [Stmt.exec, getArr_of env arr a ha, hi.eval_eq, hv.eval_eq, Out.bind_ok, Nat.not_le.2 hv2, hk, if_true, if_false]

theorem exec_arrNew {arr : Nat} {len : Expr} {env : Env} {n : Nat} (h : Evals env len n) :
    (Stmt.arrNew arr len).exec env = .ok (env.setArr arr (List.replicate n 0)) := by
  simp only [Stmt.exec, h.eval_eq, Out.bind_ok]

theorem exec_forUp {x : Nat} {lo hi : Expr} {body : Stmt} {env : Env} {l h : Nat} (hl : Evals env lo l) (hh : Evals env hi h) :
    (Stmt.forUp x lo hi body).exec env = loopUp (fun cur e => body.exec (e.setVar x cur)) (h - l) l env := by
  simp only [Stmt.exec, hl.eval_eq, hh.eval_eq, Out.bind_ok]

theorem exec_forDownEnum {k x : Nat} {lo hi : Expr} {body : Stmt} {env : Env} {l h : Nat} (hl : Evals env lo l)
    (hh : Evals env hi h) :
    (Stmt.forDownEnum k x lo hi body).exec env
      = loopDown (fun kk cur e => body.exec ((e.setVar k kk).setVar x cur)) (h + 1 - l) 0 h env := by
  simp only [Stmt.exec, hl.eval_eq, hh.eval_eq, Out.bind_ok]

/-- the program ends in a state related to the model's value, or both panic (an inductive predicate, so that elaboration never
    evaluates the program to see what the relation unfolds to) -/
inductive Sim {α} (R : Env → α → Prop) : Out Env → Out α → Prop
  | ok {e : Env} {a : α} (h : R e a) : Sim R (.ok e) (.ok a)
  | panic {p q : String} : Sim R (.panic p) (.panic q)

@[simp] theorem sim_ok_ok {α} (R : Env → α → Prop) (e : Env) (a : α) : Sim R (.ok e) (.ok a) ↔ R e a :=
  ⟨fun h => by cases h; assumption, Sim.ok⟩
@[simp] theorem sim_panic_panic {α} (R : Env → α → Prop) (p q : String) : Sim R (.panic p) (.panic q : Out α) ↔ True :=
  ⟨fun _ => trivial, fun _ => Sim.panic⟩
theorem Sim.ok_inv {α} {R : Env → α → Prop} {x : Out Env} {a : α} (h : Sim R x (.ok a)) : ∃ e, x = .ok e ∧ R e a := by
  cases h with | ok h => exact ⟨_, rfl, h⟩

theorem Sim.panic_inv {α} {R : Env → α → Prop} {x : Out Env} {q : String} (h : Sim R x (.panic q : Out α)) : ∃ p, x = .panic p := by
  cases h; exact ⟨_, rfl⟩

theorem Sim.seq_ok {α} {R : Env → α → Prop} {a b : Stmt} {env e : Env} {m : Out α} (h : a.exec env = .ok e)
    (h2 : Sim R (b.exec e) m) : Sim R ((Stmt.seq a b).exec env) m := by
  rw [exec_seq_ok h]; exact h2

/-- first statement simulated by `m1`, the rest from any related state by `m`, and `m` panics when `m1` does -/
theorem Sim.seq {α β} {Q : Env → β → Prop} {R : Env → α → Prop} {a b : Stmt} {env : Env} {m1 : Out β} {m : Out α}
    (h1 : Sim Q (a.exec env) m1) (hok : ∀ e x, m1 = .ok x → Q e x → Sim R (b.exec e) m)
    (hp : ∀ q, m1 = .panic q → ∃ q', m = .panic q') : Sim R ((Stmt.seq a b).exec env) m := by
  cases m1 with
  | ok x =>
    obtain ⟨e, he, hq⟩ := h1.ok_inv
    rw [exec_seq_ok he]; exact hok e x rfl hq
  | panic q =>
    obtain ⟨p, hpp⟩ := h1.panic_inv
    obtain ⟨q', hq'⟩ := hp q rfl
    rw [exec_seq_panic hpp, hq']; exact Sim.panic

/-- the monadic rule: first statement simulated by `m1`, the rest from any related state by the continuation -/
theorem Sim.seq_bind {α β} {Q : Env → β → Prop} {R : Env → α → Prop} {a b : Stmt} {env : Env} {m1 : Out β} {k : β → Out α}
    (h1 : Sim Q (a.exec env) m1) (h2 : ∀ e x, Q e x → Sim R (b.exec e) (k x)) : Sim R ((Stmt.seq a b).exec env) (m1 >>= k) := by
  refine Sim.seq h1 (fun e x hm hq => ?_) (fun q hm => ⟨q, ?_⟩)
  · rw [hm]; exact h2 e x hq
  · rw [hm]; rfl

theorem Sim.seq_panic {α} {R : Env → α → Prop} {a b : Stmt} {env : Env} {p q : String} (h : a.exec env = .panic p) :
    Sim R ((Stmt.seq a b).exec env) (.panic q : Out α) := by
  rw [exec_seq_panic h]; exact Sim.panic

theorem Sim.map {α β} {Q : Env → α → Prop} {R : Env → β → Prop} {x : Out Env} {m : Out α} (g : α → β) (h : Sim Q x m)
    (hg : ∀ e a, Q e a → R e (g a)) : Sim R x (m >>= fun a => .ok (g a)) := by
  cases h with
  | ok h => exact Sim.ok (hg _ _ h)
  | panic => exact Sim.panic

theorem Sim.mono {α} {R S : Env → α → Prop} {x : Out Env} {y : Out α} (h : Sim R x y) (hRS : ∀ e a, R e a → S e a) : Sim S x y := by
  cases h with
  | ok h => exact Sim.ok (hRS _ _ h)
  | panic => exact Sim.panic

/-- a translated function against the model: simulate the body, then read the result out of the final state -/
theorem run_forget_of_sim {f : Fn} {args : List Nat} {arrs : List Bytes} {R : Env → Bytes → Prop} {y : Out Bytes}
    (h : Sim R (f.body.exec ⟨args, arrs⟩) y) (hg : ∀ e a, R e a → f.result.get e = .ok a) :
    forget (f.run args arrs) = forget y := by
  unfold Fn.run
  generalize f.body.exec ⟨args, arrs⟩ = x at h
  cases h with
  | ok h => exact congrArg forget (hg _ _ h)
  | panic => rfl

/-- a `for` loop against ANY model recursion `M` that peels off one `step` per round: the body simulates `step` and keeps `Inv`
    (which may mention the counter; `hi` is where it ends: a bound for the overflow checks of index arithmetic) -/
theorem Sim.loopUp {α β} {f : Nat → Env → Out Env} {step : Nat → α → Out α} {M : Nat → Nat → α → Out β}
    {Inv : Nat → Env → α → Prop} {R : Env → β → Prop} (hi : Nat)
    (hM : ∀ n j a, M (n + 1) j a = step j a >>= M n (j + 1))
    (h0 : ∀ e a, Inv hi e a → Sim R (.ok e) (M 0 hi a))
    (hf : ∀ j e a, j < hi → Inv j e a → Sim (Inv (j + 1)) (f j e) (step j a)) :
    ∀ n j e a, j + n = hi → Inv j e a → Sim R (loopUp f n j e) (M n j a)
  | 0, j, e, a, hn, h => by subst hn; exact h0 e a h
  | n + 1, j, e, a, hn, h => by
    have hs := hf j e a (by omega) h
    rw [hM, MiniImp.loopUp]  -- qualified: under `Sim.` the bare `loopUp` is this theorem
    generalize f j e = x, step j a = m at hs ⊢
    cases hs with
    | ok h1 => exact Sim.loopUp hi hM h0 hf n (j + 1) _ _ (by omega) h1
    | panic => exact Sim.panic

/-- the same for `for (k, x) in (lo..=hi).rev().enumerate()`: `x` counts down while `k` counts up -/
theorem Sim.loopDown {α β} {f : Nat → Nat → Env → Out Env} {step : Nat → α → Out α} {M : Nat → α → Out β}
    {Inv : Nat → Nat → Env → α → Prop} {R : Env → β → Prop}
    (hM : ∀ x a, M (x + 1) a = step (x + 1) a >>= M x)
    (h0 : ∀ k e a, Inv k 0 e a → Sim R (.ok e) (M 0 a))
    (hf : ∀ k x e a, Inv k (x + 1) e a → Sim (Inv (k + 1) x) (f k (x + 1) e) (step (x + 1) a)) :
    ∀ x k e a, Inv k x e a → Sim R (loopDown f x k x e) (M x a)
  | 0, k, e, a, h => h0 k e a h
  | x + 1, k, e, a, h => by
    have hs := hf k x e a h
    rw [hM, MiniImp.loopDown]
    generalize f k (x + 1) e = y, step (x + 1) a = m at hs ⊢
    cases hs with
    | ok h1 => exact Sim.loopDown hM h0 hf x (k + 1) _ _ h1
    | panic => exact Sim.panic

/-- the statement `A[I] = A[I + 1]` (index arithmetic in `usize`) does one `shiftStep` on array slot `A` -/
theorem shift_store_sim (msg : String) {A : Nat} {I : Expr} {e : Env} {g : Bytes} {i : Nat} (hg : e.arrs[A]? = some g)
    (hI : Evals e I i) (hi : i + 1 < 2 ^ 64) :
    Sim (fun e1 g1 => e1 = e.setArr A g1) ((Stmt.store A I (Expr.idx A (Expr.add 64 I (Expr.lit 1)))).exec e) (shiftStep msg g i) := by
  simp only [Stmt.exec, Expr.eval, getArr_of e A g hg, hI.eval_eq, Out.bind_ok, hi, if_true, shiftStep]
  cases g[i + 1]? with
  | none => exact Sim.panic
  | some v =>
    have := UInt8.toNat_lt v
    by_cases hl : i < g.length <;> simp [hl, Nat.not_le.2 this]

end WowSrp.MiniImp
