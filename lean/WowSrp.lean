-- root of the library: the model (import-free). Property modules (WowSrp.Props.*) are built by name:
-- each check builds and audits its own, so that a module broken by a change of the source takes only its
-- own theorems with it. (No two modules declare the same name; all of them load into one environment.)
import WowSrp.Model.Srp
import WowSrp.Model.World
import WowSrp.Model.Pin
import WowSrp.Model.Integrity
import WowSrp.Model.MatrixCard
import WowSrp.Model.BigIntLib
